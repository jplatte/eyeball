-- root of the library: every module
import EyeballVerif.Driver.Adp
import EyeballVerif.Driver.Conc
import EyeballVerif.Driver.Obs
import EyeballVerif.Driver.Own
import EyeballVerif.Driver.Text
import EyeballVerif.Driver.Vec
import EyeballVerif.Lemmas.AdapterBasics
import EyeballVerif.Lemmas.ApplyAll
import EyeballVerif.Lemmas.AsyncBasics
import EyeballVerif.Lemmas.Bsearch
import EyeballVerif.Lemmas.ConcInv
import EyeballVerif.Lemmas.Delivers
import EyeballVerif.Lemmas.Events
import EyeballVerif.Lemmas.FilterArms
import EyeballVerif.Lemmas.ListExtra
import EyeballVerif.Lemmas.ObsBasics
import EyeballVerif.Lemmas.ObsInv
import EyeballVerif.Lemmas.PipeBasics
import EyeballVerif.Lemmas.Recv
import EyeballVerif.Lemmas.StreamInv
import EyeballVerif.Lemmas.SortInv
import EyeballVerif.Lemmas.StepInv
import EyeballVerif.Lemmas.Traversal
import EyeballVerif.Lemmas.Txn
import EyeballVerif.Lemmas.TruncInv
import EyeballVerif.Model.Adapters
import EyeballVerif.Model.Conc
import EyeballVerif.Model.Diff
import EyeballVerif.Model.OVec
import EyeballVerif.Model.OVecStep
import EyeballVerif.Model.Obs
import EyeballVerif.Model.ObsAsync
import EyeballVerif.Model.Own
import EyeballVerif.Model.Pipe
import EyeballVerif.Model.RBox
import EyeballVerif.Props.C01
import EyeballVerif.Props.C02
import EyeballVerif.Props.C02Conc
import EyeballVerif.Props.C03
import EyeballVerif.Props.C03Conc
import EyeballVerif.Props.C04
import EyeballVerif.Props.C04Lin
import EyeballVerif.Props.C05
import EyeballVerif.Props.C06
import EyeballVerif.Props.C07
import EyeballVerif.Props.C08
import EyeballVerif.Props.C09
import EyeballVerif.Props.C10
import EyeballVerif.Props.C11
import EyeballVerif.Props.C11Sort
import EyeballVerif.Props.C12
import EyeballVerif.Props.C13
import EyeballVerif.Props.C13Flat
import EyeballVerif.Props.C14
import EyeballVerif.Props.C15
import EyeballVerif.Props.C16
import EyeballVerif.Props.C16Run
import EyeballVerif.Props.C17
import EyeballVerif.Props.C18
import EyeballVerif.Props.C19
import EyeballVerif.Props.C20
import EyeballVerif.Props.ChainSound
import EyeballVerif.Props.PipeSound
import EyeballVerif.Props.PollSound
import EyeballVerif.Props.StageSound
import EyeballVerif.Props.StreamStep
import EyeballVerif.Props.StreamReach
