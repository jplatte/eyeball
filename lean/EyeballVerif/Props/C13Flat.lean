/-
  C13 — the flat law: a stage, and a whole chain, rewrites a batch exactly as it rewrites the batch's diffs one after
  another (outputs concatenate, state threaded through). This is why the batched and the unbatched flavour of every
  adapter deliver the same diffs in the same order.
-/
import EyeballVerif.Props.ChainSound
namespace EV

/-- sequential composition of two runs of a stage / a chain: outputs concatenate, the state is threaded through -/
def seqRun {σ α} (f : σ → List (Diff α) → Option (List (Diff α) × σ)) (s : σ) (a b : List (Diff α)) : Option (List (Diff α) × σ) :=
  match f s a with
  | none => none
  | some (o1, s1) =>
    match f s1 b with
    | none => none
    | some (o2, s2) => some (o1 ++ o2, s2)

theorem seqRun_eq_bind {σ α} (f : σ → List (Diff α) → Option (List (Diff α) × σ)) (s : σ) (a b : List (Diff α)) :
    seqRun f s a b = (f s a).bind fun p => (f p.2 b).map fun q => (p.1 ++ q.1, q.2) := by
  unfold seqRun
  cases f s a with
  | none => rfl
  | some p => simp only [Option.bind_some]; cases f p.2 b <;> rfl

theorem flat_of_fold {σ α} (T : Tables α) (step : Diff α → σ → Option (List (Diff α) × σ)) (mk : σ → Stage α)
    (h : ∀ ds s, (mk s).onDiffs T ds = (foldDiffs step ds s).map fun p => (p.1, mk p.2)) (s : σ) (a b : List (Diff α)) :
    (mk s).onDiffs T (a ++ b) = seqRun (fun s ds => s.onDiffs T ds) (mk s) a b := by
  simp only [seqRun_eq_bind, h, foldDiffs_append, Option.bind_map, Option.map_bind, Option.map_map, Function.comp_def]

/-- **C13 (the flat law, one stage).** Feeding a stage the concatenation of two containers is feeding it the first and
    then the second: the outputs concatenate. A batch is therefore rewritten exactly as its diffs one after another —
    the batched and the unbatched flavour of every adapter produce the same diffs in the same order. -/
theorem c13_stage_flat {α} (T : Tables α) (st : Stage α) (a b : List (Diff α)) :
    st.onDiffs T (a ++ b) = seqRun (fun s ds => s.onDiffs T ds) st a b := by
  cases st with
  | head l k buf r => exact flat_of_fold T _ (fun b => .head l k b r) (fun ds s => onDiffs_head_eq_fold T l k s r ds) buf a b
  | tail l k buf r => exact flat_of_fold T _ (fun b => .tail l k b r) (fun ds s => onDiffs_tail_eq_fold T l k s r ds) buf a b
  | skip c k buf r => exact flat_of_fold T _ (fun b => .skip c k b r) (fun ds s => onDiffs_skip_eq_fold T c k s r ds) buf a b
  | filter fid fst => exact flat_of_fold T _ (fun s => .filter fid s) (fun ds s => onDiffs_filter_eq_fold T fid s ds) fst a b
  | sort cid buf r => exact flat_of_fold T _ (fun b => .sort cid b r) (fun ds s => onDiffs_sort_eq_fold T cid s r ds) buf a b

/-- **C13 (the flat law, whole chains).** -/
theorem c13_chain_flat {α} (T : Tables α) (sts : List (Stage α)) : ∀ (a b : List (Diff α)),
    chainOnDiffs T sts (a ++ b) = seqRun (chainOnDiffs T) sts a b := by
  induction sts with
  | nil => intro a b; rfl
  | cons st outer ih =>
    intro a b
    -- as binds: `st` on `a`; then `st` on `b` and the outer stages on the first output, in either order
    simp only [seqRun_eq_bind, chainOnDiffs_cons, c13_stage_flat, ih, Option.bind_map, Option.map_bind, Option.bind_assoc,
      Option.map_map, Function.comp_def]
    cases st.onDiffs T a with
    | none => rfl
    | some p => simp only [Option.bind_some]; exact Option.bind_comm ..

end EV
