/-
  C15 — a fixed-limit Head/Tail view never exceeds its limit, even between two diffs.

  The handlers emit whatever may shorten the view before whatever may lengthen it (`Valley`): the lengths fall, then
  rise, so the two end views (C09; at most `limit` items) bound every intermediate one. The bound composes along a container.
-/
import EyeballVerif.Props.C09
import EyeballVerif.Props.StageSound
namespace EV

/-- every intermediate replica — before the first diff and after each single diff — has at most `L` items,
    and every diff is applicable -/
def runBounded {α} (L : Nat) : List (Diff α) → List α → Bool
  | [], l => decide (l.length ≤ L)
  | d :: ds, l =>
    decide (l.length ≤ L) && d.applicable l &&
      (match d.apply l with
       | some l' => runBounded L ds l'
       | none => false)

theorem runBounded_cons_iff {α} {L : Nat} {d : Diff α} {ds : List (Diff α)} {l : List α} :
    runBounded L (d :: ds) l = true ↔
      l.length ≤ L ∧ d.applicable l = true ∧ ∃ l', d.apply l = some l' ∧ runBounded L ds l' = true := by
  rw [runBounded, Bool.and_eq_true, Bool.and_eq_true, decide_eq_true_eq, and_assoc]
  cases d.apply l <;> simp

def Diff.noGrow {α} : Diff α → Bool
  | .clear | .popFront | .popBack | .remove _ | .truncate _ | .set _ _ => true
  | _ => false

def Diff.noShrink {α} : Diff α → Bool
  | .append _ | .pushFront _ | .pushBack _ | .insert _ _ | .set _ _ => true
  | _ => false

theorem Diff.length_le_of_noGrow {α} {d : Diff α} {l l' : List α} (h : d.noGrow = true) (ha : d.apply l = some l') :
    l'.length ≤ l.length := by
  cases d with
  | clear => cases ha; exact Nat.zero_le _
  | popFront => cases ha; rw [List.length_tail]; exact Nat.sub_le ..
  | popBack => cases ha; rw [List.length_dropLast]; exact Nat.sub_le ..
  | remove i => obtain ⟨hi, rfl⟩ := Diff.remove_apply_eq_some_iff.mp ha; rw [List.length_eraseIdx_of_lt hi]; exact Nat.sub_le ..
  | truncate n => cases ha; exact List.length_take_le' ..
  | set i x => obtain ⟨_, rfl⟩ := Diff.set_apply_eq_some_iff.mp ha; exact Nat.le_of_eq List.length_set
  | _ => cases h

theorem Diff.length_le_of_noShrink {α} {d : Diff α} {l l' : List α} (h : d.noShrink = true) (ha : d.apply l = some l') :
    l.length ≤ l'.length := by
  cases d with
  | append vs => cases ha; rw [List.length_append]; exact Nat.le_add_right ..
  | pushFront x => cases ha; exact Nat.le_succ _
  | pushBack x => cases ha; rw [List.length_append]; exact Nat.le_add_right ..
  | insert i x => obtain ⟨hi, rfl⟩ := Diff.insert_apply_eq_some_iff.mp ha; rw [length_insert x hi]; exact Nat.le_succ _
  | set i x => obtain ⟨_, rfl⟩ := Diff.set_apply_eq_some_iff.mp ha; exact Nat.le_of_eq List.length_set.symm
  | _ => cases h

theorem applyAll_length_le_of_noShrink {α} : ∀ (ds : List (Diff α)) (l l' : List α),
    (∀ d ∈ ds, d.noShrink = true) → applyAll ds l = some l' → l.length ≤ l'.length := by
  intro ds
  induction ds with
  | nil => intro l l' _ h; cases h; exact Nat.le_refl _
  | cons d ds ih =>
    intro l l' hs h
    obtain ⟨_, l₁, hd, h⟩ := applyAll_cons_eq_some h
    exact Nat.le_trans (Diff.length_le_of_noShrink (hs d (List.mem_cons_self ..)) hd)
      (ih l₁ l' (fun e he => hs e (List.mem_cons_of_mem _ he)) h)

def Valley {α} (ds : List (Diff α)) : Prop := ds.Pairwise fun d e => d.noGrow = true ∨ e.noShrink = true

theorem runBounded_of_valley {α} (L : Nat) : ∀ (ds : List (Diff α)) (l l' : List α), Valley ds →
    applyAll ds l = some l' → l.length ≤ L → l'.length ≤ L → runBounded L ds l = true := by
  intro ds
  induction ds with
  | nil => intro l l' _ _ hl _; exact decide_eq_true hl
  | cons d ds ih =>
    intro l l' hv h hl hl'
    obtain ⟨hd, hds⟩ := List.pairwise_cons.mp hv
    obtain ⟨happ, l₁, hl₁, h⟩ := applyAll_cons_eq_some h
    have : l₁.length ≤ L := by
      cases hg : d.noGrow with
      | true => exact Nat.le_trans (Diff.length_le_of_noGrow hg hl₁) hl
      | false =>
        refine Nat.le_trans (applyAll_length_le_of_noShrink ds l₁ l' (fun e he => ?_) h) hl'
        simpa [hg] using hd e he
    exact runBounded_cons_iff.mpr ⟨hl, happ, l₁, hl₁, ih l₁ l' hds h this hl'⟩

theorem Valley.of_noShrink {α} {b : List (Diff α)} (hb : ∀ e ∈ b, e.noShrink = true) : Valley b :=
  List.pairwise_of_forall_mem_list fun _ _ e he => .inr (hb e he)

theorem Valley.cons_noShrink {α} (d : Diff α) {b : List (Diff α)} (hb : ∀ e ∈ b, e.noShrink = true) : Valley (d :: b) :=
  List.pairwise_cons.mpr ⟨fun e he => .inr (hb e he), Valley.of_noShrink hb⟩

theorem Valley.nil {α} : Valley ([] : List (Diff α)) := List.Pairwise.nil

theorem Valley.single {α} (d : Diff α) : Valley [d] := List.pairwise_singleton _ _

theorem Valley.ite {α} {c : Prop} [Decidable c] {a b : List (Diff α)} (ha : Valley a) (hb : Valley b) :
    Valley (if c then a else b) := by
  split <;> assumption

theorem Valley.noGrow_append {α} {a b : List (Diff α)} (ha : ∀ d ∈ a, d.noGrow = true) (hb : Valley b) : Valley (a ++ b) :=
  List.pairwise_append.mpr ⟨List.pairwise_of_forall_mem_list fun d hd _ _ => .inl (ha d hd), hb, fun d hd _ _ => .inl (ha d hd)⟩

theorem getPush_noShrink {α} (buf : List α) (i : Nat) (mk : α → Diff α) (hmk : ∀ x, (mk x).noShrink = true) :
    ∀ e ∈ getPush buf i mk, e.noShrink = true :=
  forall_mem_getPush buf i hmk

/-- the "pop first if full" prefix of the inserting arms -/
theorem ite_pop_noGrow {α} (c : Prop) [Decidable c] (p : Diff α) (hp : p.noGrow = true) :
    ∀ d ∈ (if c then [p] else []), d.noGrow = true := by
  split <;> simp [hp]

theorem head_valley {α} (d : Diff α) (L n : Nat) (buf : List α) : Valley (Head.handleDiff d L n buf) := by
  unfold Head.handleDiff
  split
  · exact .nil
  · cases d with
    | append vs => exact .ite .nil (.single _)
    | clear => exact .single _
    | pushFront v => exact .noGrow_append (ite_pop_noGrow _ _ rfl) (.single _)
    | pushBack v => exact .ite .nil (.single _)
    | popFront => exact .cons_noShrink _ (getPush_noShrink _ _ _ fun _ => rfl)
    | popBack => exact .ite .nil (.single _)
    | insert i v => exact .ite .nil (.noGrow_append (ite_pop_noGrow _ _ rfl) (.single _))
    | set i v => exact .ite .nil (.single _)
    | remove i => exact .ite .nil (.cons_noShrink _ (getPush_noShrink _ _ _ fun _ => rfl))
    | truncate k => exact .ite .nil (.single _)
    | reset vs => exact .single _

theorem tail_valley {α} (d : Diff α) (L n : Nat) (buf : List α) : Valley (Tail.handleDiff d L n buf) := by
  unfold Tail.handleDiff
  split
  · exact .nil
  · have pops : ∀ (k : Nat) (p : Diff α), p.noGrow = true → ∀ d ∈ List.replicate k p, d.noGrow = true :=
      fun k p hp => List.forall_mem_replicate.mpr (.inr hp)
    have push : ∀ (c : Prop) [Decidable c] (i : Nat), ∀ e ∈ (if c then getPush buf i .pushFront else []), e.noShrink = true := by
      intro c _ i e he; split at he
      · exact getPush_noShrink _ _ _ (fun _ => rfl) e he
      · cases he
    cases d with
    | append vs => exact .noGrow_append (pops _ _ rfl) (.single _)
    | clear => exact .single _
    | pushFront v => exact .ite .nil (.single _)
    | pushBack v => exact .noGrow_append (ite_pop_noGrow _ _ rfl) (.single _)
    | popFront => exact .ite .nil (.single _)
    | popBack => exact .cons_noShrink _ (push _ _)
    | insert i v => exact .ite (.noGrow_append (ite_pop_noGrow _ _ rfl) (.single _)) .nil
    | set i v => exact .ite (.single _) .nil
    | remove i => exact .ite (.cons_noShrink _ (push _ _)) .nil
    | truncate k =>
      refine .noGrow_append (pops _ _ rfl) (.of_noShrink fun e he => ?_)
      obtain ⟨x, _, rfl⟩ := List.mem_map.mp he; rfl
    | reset vs => exact .single _

/-- C15, Head: with a fixed limit, the view has at most `limit` items after every single emitted diff -/
theorem head_prefix_bound {α} (d : Diff α) (v v' : List α) (L : Nat)
    (hv : d.validOn v = true) (ha : d.apply v = some v') :
    runBounded L (Head.handleDiff d L v.length v') (v.take L) = true :=
  runBounded_of_valley L _ _ _ (head_valley ..) (head_handle_diff d v v' L hv ha)
    (List.length_take_le ..) (List.length_take_le ..)

theorem runBounded_mono_nil {α} (L : Nat) (l : List α) : runBounded L ([] : List (Diff α)) l = decide (l.length ≤ L) := rfl

/-- C15, Tail -/
theorem tail_prefix_bound {α} (d : Diff α) (v v' : List α) (L : Nat)
    (hv : d.validOn v = true) (ha : d.apply v = some v') :
    runBounded L (Tail.handleDiff d L v.length v') (lastN L v) = true :=
  runBounded_of_valley L _ _ _ (tail_valley ..) (tail_handle_diff d v v' L hv ha)
    (lastN_length_le L v) (lastN_length_le L v')

/-- the initial values respect the bound -/
theorem c15_initial {α} (v : List α) (L : Nat) :
    (Head.initial v L).length ≤ L ∧ (Tail.initial v L).length ≤ L := by
  rw [head_initial, tail_initial]
  exact ⟨List.length_take_le .., lastN_length_le L v⟩

/-- `runBounded` says what C15 says: every prefix of the emitted diffs leaves at most `L` items -/
theorem runBounded_prefix {α} (L : Nat) (ds : List (Diff α)) (l : List α) (h : runBounded L ds l = true)
    (k : Nat) (u : List α) (hu : applyAll (ds.take k) l = some u) : u.length ≤ L := by
  induction ds generalizing l k with
  | nil => rw [List.take_nil] at hu; cases hu; exact of_decide_eq_true h
  | cons d ds ih =>
    obtain ⟨hlen, _, l', hd, hrest⟩ := runBounded_cons_iff.mp h
    cases k with
    | zero => cases hu; exact hlen
    | succ k =>
      obtain ⟨_, l'', hd', hu⟩ := applyAll_cons_eq_some hu
      cases hd.symm.trans hd'
      exact ih l' hrest k hu

theorem runBounded_append {α} (L : Nat) (a b : List (Diff α)) : ∀ (l l' : List α), applyAll a l = some l' →
    runBounded L a l = true → runBounded L b l' = true → runBounded L (a ++ b) l = true := by
  induction a with
  | nil => intro l l' h _ hb; cases h; exact hb
  | cons d ds ih =>
    intro l l' h ha hb
    obtain ⟨-, w, hd, h⟩ := applyAll_cons_eq_some h
    obtain ⟨hlen, happ, w', hd', hrest⟩ := runBounded_cons_iff.mp ha
    cases hd.symm.trans hd'
    exact runBounded_cons_iff.mpr ⟨hlen, happ, w, hd, ih w l' h hrest hb⟩

theorem c15_mapFold_bounded {α} (handler : Diff α → Nat → List α → List (Diff α)) (V : List α → List α) (L : Nat)
    (hs : ∀ d v v', d.validOn v = true → d.apply v = some v' → applyAll (handler d v.length v') (V v) = some (V v'))
    (hb : ∀ d v v', d.validOn v = true → d.apply v = some v' → runBounded L (handler d v.length v') (V v) = true)
    (hV : ∀ v, (V v).length ≤ L) (ds : List (Diff α)) (buf : List α) (hv : ValidSeq ds buf) :
    ∃ out buf', foldDiffs (mapStep handler) ds buf = some (out, buf') ∧ runBounded L out (V buf) = true := by
  obtain ⟨out, buf', e1, -, -, e3⟩ := mapFold_sound handler V (fun o u u' => applyAll o u = some u' ∧ runBounded L o u = true)
    (fun v => ⟨rfl, decide_eq_true (hV v)⟩)
    (fun a b u u' u'' ra rb => ⟨replay_append a b u u' u'' ra.1 rb.1, runBounded_append L a b u u' ra.1 ra.2 rb.2⟩)
    (fun d v v' hvalid happly => ⟨hs d v v' hvalid happly, hb d v v' hvalid happly⟩) ds buf hv
  exact ⟨out, buf', e1, e3⟩

/-- **C15 for whole containers**: every intermediate state of a strict replica of a Head's output has at most `limit`
    items (`c15_tail_container`: a Tail's) -/
theorem c15_head_container {α} (T : Tables α) (l : Nat) (k : Option Nat) (buf : List α) (r ds : List (Diff α)) (hv : ValidSeq ds buf) :
    ∃ out st', (Stage.head l k buf r).onDiffs T ds = some (out, st') ∧ runBounded l out (buf.take l) = true := by
  obtain ⟨out, buf', e1, e2⟩ := c15_mapFold_bounded (fun d pl b => Head.handleDiff d l pl b) (fun v => v.take l) l
    (fun d v v' a b => head_handle_diff d v v' l a b) (fun d v v' a b => head_prefix_bound d v v' l a b)
    (fun v => List.length_take_le ..) ds buf hv
  exact ⟨out, .head l k buf' r, by rw [onDiffs_head_eq_fold, e1]; rfl, e2⟩

theorem c15_tail_container {α} (T : Tables α) (l : Nat) (k : Option Nat) (buf : List α) (r ds : List (Diff α)) (hv : ValidSeq ds buf) :
    ∃ out st', (Stage.tail l k buf r).onDiffs T ds = some (out, st') ∧ runBounded l out (lastN l buf) = true := by
  obtain ⟨out, buf', e1, e2⟩ := c15_mapFold_bounded (fun d pl b => Tail.handleDiff d l pl b) (fun v => lastN l v) l
    (fun d v v' a b => tail_handle_diff d v v' l a b) (fun d v v' a b => tail_prefix_bound d v v' l a b)
    (fun v => lastN_length_le l v) ds buf hv
  exact ⟨out, .tail l k buf' r, by rw [onDiffs_tail_eq_fold, e1]; rfl, e2⟩

end EV
