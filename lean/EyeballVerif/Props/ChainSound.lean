/-
  C12 (with C09–C11): a whole container through a whole chain of adapters — every stage's output is again a valid
  container (an emitted Truncate really shortens the view it is applied to), so the per-stage theorems compose by
  induction over the chain: the diffs coming out at the top take the old composed view to the new composed view.
-/
import EyeballVerif.Props.StageSound
namespace EV

/-- what the stage shows of the contents `below` of the stream it sits on -/
def Stage.viewOn {α} (T : Tables α) : Stage α → List α → List α
  | .head l _ _ _, below => below.take l
  | .tail l _ _ _, below => lastN l below
  | .skip c _ _ _, below => Skip.viewOf c below
  | .filter fid _, below => below.filterMap (T.filt fid)
  | .sort _ buf _, _ => buf.map (·.2)
-- The Sort arm ignores `below`: tie order depends on the history, so with a Sort `chainView` is no function of the source.

/-- the stage's bookkeeping is right for the contents `below` -/
def Stage.Inv {α} (T : Tables α) : Stage α → List α → Prop
  | .head _ _ buf _, below => buf = below
  | .tail _ _ buf _, below => buf = below
  | .skip _ _ buf _, below => buf = below
  | .filter fid st, below => FInv (T.filt fid) st below
  | .sort cid buf _, below => SInvP (T.cmp cid) buf below ∧ LawfulCmp (T.cmp cid) ∧ SortSpec (T.cmp cid) (T.sort cid)
-- `LawfulCmp`, `SortSpec` are facts about `T`: kept here so that the chain and poll theorems need no hypothesis on `T`.

def Stage.isSort {α} : Stage α → Bool
  | .sort _ _ _ => true
  | _ => false

def Stage.isTail {α} : Stage α → Bool
  | .tail _ _ _ _ => true
  | _ => false

theorem Stage.isSort_kind {α} (st : Stage α) : st.isSort = decide (st.kind.1 = .sort) := by cases st <;> rfl
theorem Stage.isTail_kind {α} (st : Stage α) : st.isTail = decide (st.kind.1 = .tail) := by cases st <;> rfl

theorem inv_setReady {α} (T : Tables α) (st : Stage α) (r : List (Diff α)) (v : List α) : (st.setReady r).Inv T v ↔ st.Inv T v := by
  cases st <;> exact Iff.rfl

theorem viewOn_setReady {α} (T : Tables α) (st : Stage α) (r : List (Diff α)) (v : List α) : (st.setReady r).viewOn T v = st.viewOn T v := by
  cases st <;> rfl

/-- **One container through one stage** (any kind): the stage follows the stream below it, its output takes its old
    view to its new view, strictly, and is itself a valid container for whatever sits on top. -/
theorem stage_onDiffs_sound {α} (T : Tables α) (st : Stage α) (below : List α) (ds : List (Diff α))
    (hi : st.Inv T below) (hv : ValidSeq ds below) (hs : st.isSort = true → NoTrunc ds) :
    ∃ out st' below', st.onDiffs T ds = some (out, st') ∧ applyAll ds below = some below' ∧ st'.Inv T below' ∧
      applyAll out (st.viewOn T below) = some (st'.viewOn T below') ∧ ValidSeq out (st.viewOn T below) ∧
      st'.isSort = st.isSort := by
  cases st with
  | head l k buf r =>
    cases (hi : buf = below)
    obtain ⟨buf', out, hod, hbuf', hrun⟩ := head_onDiffs_run T l k below r ds hv
    exact ⟨out, .head l k buf' r, buf', hod, hbuf', rfl, hrun.2, hrun.1, rfl⟩
  | tail l k buf r =>
    cases (hi : buf = below)
    obtain ⟨buf', out, hod, hbuf', hrun⟩ := tail_onDiffs_run T l k below r ds hv
    exact ⟨out, .tail l k buf' r, buf', hod, hbuf', rfl, hrun.2, hrun.1, rfl⟩
  | skip c k buf r =>
    cases (hi : buf = below)
    obtain ⟨buf', out, hod, hbuf', hrun⟩ := skip_onDiffs_run T c k below r ds hv
    exact ⟨out, .skip c k buf' r, buf', hod, hbuf', rfl, hrun.2, hrun.1, rfl⟩
  | filter fid fst =>
    obtain ⟨src', out, st', hod, hsrc', hinv', hrun⟩ := filter_onDiffs_run T fid fst ds below hv hi
    exact ⟨out, .filter fid st', src', hod, hsrc', hinv', hrun.2, hrun.1, rfl⟩
  | sort cid buf r =>
    obtain ⟨hinvP, hlawful, hspec⟩ := hi
    obtain ⟨src', out, buf', hod, hsrc', hinvP', hrun⟩ := sort_onDiffs_run T cid hlawful hspec r ds below buf hv (hs rfl) hinvP
    exact ⟨out, .sort cid buf' r, src', hod, hsrc', ⟨hinvP', hlawful, hspec⟩, hrun.2, hrun.1, rfl⟩

/-- **a limit / count change through one stage** (Head, Skip; a Tail only if it is static — the dynamic Tail's
    `update_limit` is the known finding D2): the stage's bookkeeping stays right for the view below, and the emitted
    diffs are a valid container taking the old view to the new one -/
theorem stage_onLimit_sound {α} (T : Tables α) (st : Stage α) (below : List α) (v : Nat) (hi : st.Inv T below)
    (hnt : st.isTail = false) :
    (st.onLimit v).2.Inv T below ∧ applyAll (st.onLimit v).1 (st.viewOn T below) = some ((st.onLimit v).2.viewOn T below) ∧
    ValidSeq (st.onLimit v).1 (st.viewOn T below) ∧ (st.onLimit v).2.ready = st.ready ∧ (st.onLimit v).2.isSort = st.isSort ∧
    (st.onLimit v).2.isTail = st.isTail := by
  cases st with
  | head l k buf r =>
    cases (hi : buf = below)
    have hreplay := head_update_limit below l v
    exact ⟨rfl, hreplay, (validRun_of_truncOK hreplay (head_updateLimit_truncOK below l v)).1, rfl, rfl, rfl⟩
  | tail l k buf r => cases hnt
  | skip c k buf r =>
    cases (hi : buf = below)
    have hreplay := skip_update_count below c v
    exact ⟨rfl, hreplay, (validRun_of_truncOK hreplay (truncOK_of_noTrunc _ (skip_updateCount_noTrunc below c v) _)).1, rfl, rfl, rfl⟩
  | filter f s => exact ⟨hi, rfl, trivial, rfl, rfl, rfl⟩
  | sort c b r => exact ⟨hi, rfl, trivial, rfl, rfl, rfl⟩

/-- a container without `Truncate` comes out of any stage without `Truncate` -/
theorem onDiffs_noTrunc {α} (T : Tables α) (st st' : Stage α) (ds out : List (Diff α)) (hnt : NoTrunc ds)
    (h : st.onDiffs T ds = some (out, st')) : NoTrunc out := by
  have key : ∀ {σ} (step : Diff α → σ → Option (List (Diff α) × σ)) (mk : σ → Stage α) (s : σ),
      (∀ d s o s', (∀ n, d ≠ .truncate n) → step d s = some (o, s') → NoTrunc o) →
      (foldDiffs step ds s).map (fun p => (p.1, mk p.2)) = some (out, st') → NoTrunc out := by
    intro σ step mk s hstep h
    obtain ⟨p, h1, h2⟩ := Option.map_eq_some_iff.mp h
    cases h2
    exact foldDiffs_forall step (fun d => ∀ n, d ≠ .truncate n) (fun x => ∀ n, x ≠ .truncate n) hstep ds s p.1 p.2 hnt h1
  have mstep : ∀ (hd : Diff α → Nat → List α → List (Diff α)), (∀ d pl b, (∀ n, d ≠ .truncate n) → NoTrunc (hd d pl b)) →
      ∀ d s o s', (∀ n, d ≠ .truncate n) → mapStep hd d s = some (o, s') → NoTrunc o := by
    intro hd hn d s o s' hp hs
    obtain ⟨b', _, e⟩ := Option.map_eq_some_iff.mp hs
    cases e; exact hn d _ _ hp
  cases st with
  | head l k buf r => rw [onDiffs_head_eq_fold] at h; exact key _ (fun b => .head l k b r) buf (mstep _ fun d pl b hd => head_noTrunc d l pl b hd) h
  | tail l k buf r => rw [onDiffs_tail_eq_fold] at h; exact key _ (fun b => .tail l k b r) buf (mstep _ fun d pl b _ => tail_noTrunc d l pl b) h
  | skip c k buf r =>
    rw [onDiffs_skip_eq_fold] at h
    exact key _ (fun b => .skip c k b r) buf (mstep _ fun d pl b hd => by
      cases c with
      | none => exact noTrunc_nil
      | some c => exact skip_noTrunc d c pl b hd) h
  | filter fid fst =>
    rw [onDiffs_filter_eq_fold] at h
    exact key _ (fun s => .filter fid s) fst (fun d s o s' hp hs => by cases hs; exact filter_noTrunc (T.filt fid) d s hp) h
  | sort cid buf r =>
    rw [onDiffs_sort_eq_fold] at h
    exact key _ (fun b => .sort cid b r) buf (fun d s o s' hp hs => sort_noTrunc (T.cmp cid) (T.sort cid) d s o s' hp hs) h

/-! Chains of stages, innermost first. `chainOnDiffs` / `chain_sound` stand by themselves: the poll loop (`pollStages_sound`)
  goes stage by stage through `stage_onDiffs_sound` and shares only `ChainInv` / `chainView` with them. -/

/-- one container through a whole chain: the output of each stage is the input of the next one -/
def chainOnDiffs {α} (T : Tables α) : List (Stage α) → List (Diff α) → Option (List (Diff α) × List (Stage α))
  | [], ds => some (ds, [])
  | st :: outer, ds =>
    match st.onDiffs T ds with
    | none => none
    | some (out, st') => (chainOnDiffs T outer out).map fun (o, sts) => (o, st' :: sts)

theorem chainOnDiffs_cons {α} (T : Tables α) (st : Stage α) (outer : List (Stage α)) (ds : List (Diff α)) :
    chainOnDiffs T (st :: outer) ds =
      (st.onDiffs T ds).bind fun p => (chainOnDiffs T outer p.1).map fun q => (q.1, p.2 :: q.2) := by
  simp only [chainOnDiffs]
  cases st.onDiffs T ds <;> rfl

/-- the composed view: each stage's view of the view below it -/
def chainView {α} (T : Tables α) : List (Stage α) → List α → List α
  | [], src => src
  | st :: outer, src => chainView T outer (st.viewOn T src)

def ChainInv {α} (T : Tables α) : List (Stage α) → List α → Prop
  | [], _ => True
  | st :: outer, src => st.Inv T src ∧ ChainInv T outer (st.viewOn T src)

/-- no `Truncate` reaches a Sort stage during this run (the arm for it is the known finding D4) -/
def SortSafe {α} (T : Tables α) : List (Stage α) → List (Diff α) → Prop
  | [], _ => True
  | st :: outer, ds => (st.isSort = true → NoTrunc ds) ∧ ∀ out st', st.onDiffs T ds = some (out, st') → SortSafe T outer out

/-- **C12 / C09–C11 composed: a container through any chain of adapters.** For every chain (any kinds, any depth)
    whose stages' bookkeeping is right for the views below them, and every valid container from the source that
    brings no `Truncate` to a Sort stage: no stage panics, every stage's bookkeeping is right afterwards, and the
    diffs coming out at the top take the old composed view to the new composed view, strictly — and are again a
    valid container. -/
theorem chain_sound {α} (T : Tables α) (sts : List (Stage α)) :
    ∀ (src : List α) (ds : List (Diff α)), ChainInv T sts src → ValidSeq ds src → SortSafe T sts ds →
    ∃ out sts' src', chainOnDiffs T sts ds = some (out, sts') ∧ applyAll ds src = some src' ∧ ChainInv T sts' src' ∧
      applyAll out (chainView T sts src) = some (chainView T sts' src') ∧ ValidSeq out (chainView T sts src) := by
  induction sts with
  | nil =>
    intro src ds _ hv _
    obtain ⟨src', h⟩ := ((validSeq_iff ds src).mp hv).1
    exact ⟨ds, [], src', rfl, h, trivial, h, hv⟩
  | cons st outer ih =>
    intro src ds ⟨hinv, hchain⟩ hv ⟨hsort, hsafe⟩
    obtain ⟨out, st', src', hod, hsrc', hinv', hreplay, hvalid, _⟩ := stage_onDiffs_sound T st src ds hinv hv hsort
    obtain ⟨top, sts', v', hchainOD, hv', hchain', htop, hvalidTop⟩ := ih (st.viewOn T src) out hchain hvalid (hsafe out st' hod)
    -- outer stages sit on the view of `st'`: `out` replays to one list only
    obtain rfl : v' = st'.viewOn T src' := Option.some.inj (hv'.symm.trans hreplay)
    exact ⟨top, st' :: sts', src', by rw [chainOnDiffs_cons, hod, Option.bind_some, hchainOD]; rfl, hsrc', ⟨hinv', hchain'⟩, htop, hvalidTop⟩

theorem sortSafe_of_noTrunc {α} (T : Tables α) (sts : List (Stage α)) : ∀ (ds : List (Diff α)), NoTrunc ds → SortSafe T sts ds := by
  induction sts with
  | nil => intro ds _; trivial
  | cons st outer ih =>
    intro ds h
    exact ⟨fun _ => h, fun out st' ho => ih out (onDiffs_noTrunc T st st' ds out h ho)⟩

/-- `chain_sound` for chains with Sort stages, under the simple hypothesis that the container brings no `Truncate` -/
theorem chain_sound_nt {α} (T : Tables α) (sts : List (Stage α)) (src : List α) (ds : List (Diff α))
    (hi : ChainInv T sts src) (hv : ValidSeq ds src) (hn : NoTrunc ds) :
    ∃ out sts' src', chainOnDiffs T sts ds = some (out, sts') ∧ applyAll ds src = some src' ∧ ChainInv T sts' src' ∧
      applyAll out (chainView T sts src) = some (chainView T sts' src') ∧ ValidSeq out (chainView T sts src) :=
  chain_sound T sts src ds hi hv (sortSafe_of_noTrunc T sts ds hn)

theorem chainView_snoc {α} (T : Tables α) (l : List (Stage α)) (st : Stage α) : ∀ src,
    chainView T (l ++ [st]) src = st.viewOn T (chainView T l src) := by
  induction l with
  | nil => intro src; rfl
  | cons a l ih => intro src; simp only [List.cons_append, chainView]; exact ih _

theorem chainInv_snoc {α} (T : Tables α) (l : List (Stage α)) (st : Stage α) : ∀ src,
    ChainInv T (l ++ [st]) src ↔ ChainInv T l src ∧ st.Inv T (chainView T l src) := by
  induction l with
  | nil => intro src; simp [ChainInv, chainView]
  | cons a l ih => intro src; simp only [List.cons_append, ChainInv, chainView]; rw [ih]; exact and_assoc.symm

theorem mkStage_spec {α} (T : Tables α) (vals : List α) (sp : StageSpec)
    (hT : ∀ cid, sp = .sort cid → LawfulCmp (T.cmp cid) ∧ SortSpec (T.cmp cid) (T.sort cid)) :
    (mkStage T vals sp).1.Inv T vals ∧ (mkStage T vals sp).1.viewOn T vals = (mkStage T vals sp).2 := by
  cases sp with
  | sort cid =>
    have := sinvP_init (cmp := T.cmp cid) (T.sort cid) (hT cid rfl).2 vals
    exact ⟨⟨this.1, hT cid rfl⟩, this.2.symm⟩
  | filter fid => exact ⟨(filter_init (T.filt fid) vals).2, (filter_init (T.filt fid) vals).1.symm⟩
  | head l | dheadi l k => exact ⟨rfl, (head_initial vals l).symm⟩
  | dhead k => exact ⟨rfl, (head_initial vals 0).symm⟩
  | tail l | dtaili l k => exact ⟨rfl, (tail_initial vals l).symm⟩
  | dtail k => exact ⟨rfl, (tail_initial vals 0).symm⟩
  | skip c | dskipi c k => exact ⟨rfl, (skip_initial vals c).symm⟩
  | dskip k => exact ⟨rfl, rfl⟩

/-- `mkPipe` and the poll loop list stages outermost first, `ChainInv` / `chainView` innermost first: hence `.reverse`. -/
theorem mkPipe_spec {α} (T : Tables α) (vals : List α) (specs : List StageSpec)
    (hT : ∀ cid, .sort cid ∈ specs → LawfulCmp (T.cmp cid) ∧ SortSpec (T.cmp cid) (T.sort cid)) :
    ChainInv T (mkPipe T vals specs).1.reverse vals ∧ chainView T (mkPipe T vals specs).1.reverse vals = (mkPipe T vals specs).2 := by
  refine mkPipe_induct T vals specs (fun sts v => ChainInv T sts.reverse vals ∧ chainView T sts.reverse vals = v) ⟨trivial, rfl⟩ ?_
  intro sts v sp hsp ⟨hinv, hview⟩
  obtain ⟨hinv1, hview1⟩ := mkStage_spec T v sp fun cid h => hT cid (h ▸ hsp)
  constructor
  · rw [List.reverse_cons, chainInv_snoc, hview]; exact ⟨hinv, hinv1⟩
  · rw [List.reverse_cons, chainView_snoc, hview]; exact hview1

/-- **every chain the constructors build satisfies the chain invariant**, and its composed view is the initial
    values the outermost constructor hands out -/
theorem mkPipe_chainInv {α} (T : Tables α) (hT : ∀ cid, LawfulCmp (T.cmp cid) ∧ SortSpec (T.cmp cid) (T.sort cid))
    (vals : List α) (specs : List StageSpec) :
    ChainInv T (mkPipe T vals specs).1.reverse vals ∧ chainView T (mkPipe T vals specs).1.reverse vals = (mkPipe T vals specs).2 :=
  mkPipe_spec T vals specs fun cid _ => hT cid

/-- non-vacuity: a concrete chain (filter "even" under head 2) and a concrete container meet the hypotheses of
    `chain_sound`, and the theorem's conclusion is what evaluation gives -/
example :
    let T : Tables Nat := { filt := fun _ x => if x % 2 = 0 then some x else none, cmp := fun _ => compare, sort := fun _ => Srt.stableSort compare }
    let sts := (mkPipe T [1, 2, 3, 4] [.filter 0, .head 2]).1.reverse
    (chainOnDiffs T sts [.pushFront 6, .remove 2]).map (·.1) = some [.popBack, .pushFront 6, .remove 1, .pushBack 4] ∧
    chainView T sts [1, 2, 3, 4] = [2, 4] := by
  decide

end EV
