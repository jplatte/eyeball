/-
  C17 — mutators behave like a plain vector; entry traversal visits each item once.
  (`forEach_call_vals`, `plain_set_getD`, `plain_remove_getD` stand here because they rest on `c17_direct`.)
-/
import EyeballVerif.Lemmas.Traversal
import EyeballVerif.Lemmas.Txn
namespace EV

/-- C17: every mutator changes the contents and returns exactly what the same call on a plain vector does;
    it panics exactly when the plain call is out of range. -/
theorem c17_exec_plain {α} (op : VOp α) (l : List α) :
    (op.exec l).map (fun r => (r.vals, r.ret)) = op.plain l := by
  cases op with
  | append vs => simp [VOp.exec, VOp.plain]
  | clear => simp only [VOp.exec, VOp.plain]; split <;> simp_all
  | pushFront v => simp [VOp.exec, VOp.plain]
  | pushBack v => simp [VOp.exec, VOp.plain]
  | popFront => cases l <;> simp [VOp.exec, VOp.plain]
  | popBack =>
    simp only [VOp.exec, VOp.plain]
    cases h : l.getLast? with
    | none => simp at h; simp [h]
    | some x => simp
  | insert i v => simp only [VOp.exec, VOp.plain]; split <;> simp
  | set i v =>
    simp only [VOp.exec, VOp.plain]
    by_cases h : i < l.length <;> simp [h]
  | remove i =>
    simp only [VOp.exec, VOp.plain]
    by_cases h : i < l.length <;> simp [h]
  | truncate n =>
    simp only [VOp.exec, VOp.plain]; split
    · simp
    · simp; rw [List.take_of_length_le (by omega)]

/-- `ObservableVector` mutators: contents and return value are those of the plain-vector call; the call
    panics (no new state, nothing sent — `OV.direct` yields no successor state) exactly when the plain call is
    out of range. -/
theorem c17_direct {α} (s : OV α) (op : VOp α) :
    match s.direct op with
    | some (s', r, _) => op.plain s.vals = some (s'.vals, r)
    | none => op.plain s.vals = none := by
  have h := c17_exec_plain op s.vals
  unfold OV.direct
  cases he : op.exec s.vals with
  | none => simp [he] at h ⊢; exact h.symm
  | some r =>
    simp [he] at h ⊢
    cases hd : r.diff with
    | none => simp [h]
    | some d => simp [send_vals, h]

/-- the same for the mutators of a transaction, on its working copy -/
theorem c17_txn_op {α} (s : OV α) (t : Txn α) (ht : s.txn = some t) (op : VOp α) :
    match s.txnOp op with
    | some (s', r) => ∃ t', s'.txn = some t' ∧ op.plain t.working = some (t'.working, r)
    | none => op.plain t.working = none := by
  by_cases hc : op = .clear
  · subst hc; rw [txnOp_clear s t ht]; exact ⟨_, rfl, rfl⟩
  · rw [txnOp_exec s t op ht hc, ← c17_exec_plain op t.working]
    cases op.exec t.working with
    | none => rfl
    | some r => exact ⟨_, rfl, rfl⟩

theorem forEach_call_vals {α} (st : OV α × List Nat) (op : VOp α) :
    (OV.forEachCall st op).1.vals = ((op.plain st.1.vals).map (·.1)).getD st.1.vals := by
  have h := c17_direct st.1 op
  unfold OV.forEachCall
  cases hd : st.1.direct op with
  | none => simp only [hd] at h ⊢; simp [h]
  | some p => obtain ⟨s', r, w⟩ := p; simp only [hd] at h ⊢; simp [h]

/-- out of range the call panics and is skipped, and `List.set` / `List.eraseIdx` are the identity there too -/
theorem plain_set_getD {α} (l : List α) (i : Nat) (v : α) : ((VOp.plain (.set i v) l).map (·.1)).getD l = l.set i v := by
  by_cases hi : i < l.length
  · simp [VOp.plain, hi]
  · simp [VOp.plain, hi, List.set_eq_of_length_le (Nat.le_of_not_lt hi)]

theorem plain_remove_getD {α} (l : List α) (i : Nat) : ((VOp.plain (.remove i) l).map (·.1)).getD l = l.eraseIdx i := by
  by_cases hi : i < l.length
  · simp [VOp.plain, hi]
  · simp [VOp.plain, hi, List.eraseIdx_of_length_le (Nat.le_of_not_lt hi)]

/-- `for_each` / `entries`: every element is visited exactly once in index order, also when elements are
    replaced or removed through their entries; the reported index is the element's current position; an early
    exit leaves the rest untouched — all packaged in the list-level specification `travSpec`. -/
theorem c17_for_each {α} (s : OV α) (decs : List (Dec α)) :
    (s.forEach decs).1.1.vals = (travSpec s.vals decs 0).1 ∧
    (s.forEach decs).2 = (travSpec s.vals decs 0).2 := by
  rw [OV.forEach_eq]
  have hsim := forEachLoop_sim (fun st : OV α × List Nat => st.1.vals)
    (fun st i v => OV.forEachCall st (.set i v)) (fun st i => OV.forEachCall st (.remove i))
    (fun l : List α => l) (fun l i v => l.set i v) (fun l i => l.eraseIdx i)
    (fun a b => a.1.vals = b) (fun a b h => h)
    (fun a b i v h => by rw [forEach_call_vals, h, plain_set_getD])
    (fun a b i h => by rw [forEach_call_vals, h, plain_remove_getD])
    s.vals.length 0 decs (s, []) s.vals [] rfl
  have hl := forEachLoop_list [] s.vals decs [] s.vals.length (Nat.le_refl _)
  simp only [List.length_nil, List.nil_append] at hl
  rw [hl] at hsim
  exact ⟨hsim.1, hsim.2⟩

/-- what the specification says, spelled out: without `stop`, the visited items are exactly the original
    items in order … -/
theorem c17_visits_each_once {α} (l : List α) (decs : List (Dec α)) (k : Nat)
    (hns : ∀ d ∈ decs, d ≠ .stop) : (travSpec l decs k).2.map (·.2) = l := by
  induction l generalizing decs k with
  | nil => simp [travSpec]
  | cons x xs ih =>
    unfold travSpec
    have htail : ∀ d ∈ decs.tail, d ≠ .stop := fun d hd => hns d (List.mem_of_mem_tail hd)
    cases hd : decs.headD .keep <;> simp [ih _ _ htail]
    · -- left over: `stop`, which `hns` rules out
      cases decs with
      | nil => simp at hd
      | cons d ds => simp at hd; exact absurd hd (hns d (by simp))

/-- … and the reported index of each visited item is the number of items kept before it (its current
    position in the vector at the time of the visit). -/
theorem c17_first_index {α} (x : α) (xs : List α) (decs : List (Dec α)) (k : Nat) :
    (travSpec (x :: xs) decs k).2.head? = some (k, x) := by
  unfold travSpec
  cases decs.headD .keep <;> simp

example : travSpec [1, 2, 3, 4] [.remove, .set 9, .setRemove 7, .keep] 0 = ([9, 4], [(0, 1), (0, 2), (1, 3), (1, 4)]) := by
  decide
example : travSpec [1, 2, 3] [.keep, .stop, .remove] 0 = ([1, 2, 3], [(0, 1), (1, 2)]) := by decide

end EV
