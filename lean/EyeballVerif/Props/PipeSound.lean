/-
  C12 at the level of the poll loop: six instances of `pollStages_sound`, one per class of chains and stream flavour.
  Only `PipeInv` has a theorem that subscribing and constructing establish it; the unbatched classes get `ShownTop` from
  the constructors, `PipeInvNT` and `PipeInvD` nothing of the kind.
-/
import EyeballVerif.Props.PollSound
import EyeballVerif.Props.StreamReach
namespace EV

/-- A poll leaves every stage's `kind` (`pollStages_kind`), so keeps any condition on `limOf`, `isSort`, `isTail`. `C`: the
    condition as a function of these three, e.g. `fun l s _ => l = none ∧ s = false`. -/
theorem pollStages_class {α} {T : Tables α} {b : Bool} {sub fuel : Nat} {sts sts' : List (Stage α)} {w w' : PWorld α} {it : Item α}
    (hres : pollStages T b sub fuel sts w = (it, sts', w'))
    (C : Option Nat → Bool → Bool → Prop) (h : ∀ st ∈ sts, C st.limOf st.isSort st.isTail) :
    ∀ st' ∈ sts', C st'.limOf st'.isSort st'.isTail := by
  intro st' h'
  have hk := pollStages_kind T b sub fuel sts w
  rw [hres] at hk
  obtain ⟨st, hst, e⟩ := List.mem_map.mp (hk ▸ List.mem_map_of_mem (f := Stage.kind) h')
  have := h st hst
  rw [Stage.limOf_eq_kind_snd, Stage.isSort_kind, Stage.isTail_kind] at this ⊢
  exact e ▸ this

/-- a static stage (no limit / count stream) that is not a Sort and has nothing buffered -/
def StaticStage {α} (st : Stage α) : Prop := st.ready = [] ∧ st.limOf = none ∧ st.isSort = false

/-- the whole pipeline (stages outermost first) on receiver `sub`: every stage static, the receiver alive with a
    defined replica, and the chain invariant for that replica -/
def PipeInv {α} (T : Tables α) (sub : Nat) (sts : List (Stage α)) (w : PWorld α) : Prop :=
  VInv w.ov ∧ TInv w.ov ∧ (∀ st ∈ sts, StaticStage st) ∧
  ∃ r rep, w.ov.subs[sub]? = some r ∧ r.alive = true ∧ r.replica = some rep ∧ ChainInv T sts.reverse rep

/-- what the pipeline shows: the composed view of the receiver's replica -/
def pipeView {α} (T : Tables α) (sub : Nat) (sts : List (Stage α)) (w : PWorld α) : Option (List α) :=
  (w.ov.subs[sub]?.bind (·.replica)).map (chainView T sts.reverse)

theorem pipeView_eq {α} (T : Tables α) (sub : Nat) (sts : List (Stage α)) (w : PWorld α) (r : Sub α) (rep : List α)
    (hr : w.ov.subs[sub]? = some r) (hrep : r.replica = some rep) : pipeView T sub sts w = some (chainView T sts.reverse rep) := by
  simp [pipeView, hr, hrep]

/-- nothing is buffered, so what the consumer has been shown is the composed view of the replica -/
theorem pollStages_sound_batched {α} (T : Tables α) (nt : Bool) (sub fuel : Nat) (sts : List (Stage α)) (w : PWorld α)
    (r : Sub α) (rep : List α) (hsrc : VInv w.ov ∧ TInv w.ov ∧ (nt = true → RestIn w.ov ∧ NoTruncLog w.ov))
    (hok : ∀ st ∈ sts, st.Ok true nt) (hr : w.ov.subs[sub]? = some r) (hal : r.alive = true) (hrep : r.replica = some rep)
    (hci : ChainInv T sts.reverse rep) {it : Item α} {sts' : List (Stage α)} {w' : PWorld α}
    (hres : pollStages T true sub fuel sts w = (it, sts', w')) :
    it = .panic ∨
    ∃ r' rep', (VInv w'.ov ∧ TInv w'.ov ∧ (nt = true → RestIn w'.ov ∧ NoTruncLog w'.ov)) ∧ (∀ st ∈ sts', st.Ok true nt) ∧
      w'.ov.subs[sub]? = some r' ∧ r'.alive = true ∧ r'.replica = some rep' ∧ ChainInv T sts'.reverse rep' ∧
      pipeView T sub sts w = some (chainView T sts.reverse rep) ∧ pipeView T sub sts' w' = some (chainView T sts'.reverse rep') ∧
      (match itemDiffs it with
       | some ds => ValidSeq ds (chainView T sts.reverse rep) ∧
          applyAll ds (chainView T sts.reverse rep) = some (chainView T sts'.reverse rep')
       | none => chainView T sts'.reverse rep' = chainView T sts.reverse rep) ∧
      (nt = true → ∀ ds, itemDiffs it = some ds → NoTrunc ds) := by
  have hpost := pollStages_sound T true nt sub fuel sts w _ ⟨hsrc, hok, r, rep, hr, hal, nofun, hrep,
      (shownTop_ready_nil T sts rep _ fun st h => (hok st h).1 rfl).mpr ⟨hci, rfl⟩⟩
  rw [hres] at hpost
  rcases hpost with hp | ⟨top', ⟨hsrc', hok', r', rep', hr', hal', -, hrep', hsh'⟩, -, hitem, hnotrunc⟩
  · exact .inl hp
  · obtain ⟨hci', rfl⟩ := (shownTop_ready_nil T _ rep' top' fun st h => (hok' st h).1 rfl).mp hsh'
    exact .inr ⟨r', rep', hsrc', hok', hr', hal', hrep', hci', pipeView_eq T sub _ _ r rep hr hrep,
      pipeView_eq T sub _ _ r' rep' hr' hrep', hitem, hnotrunc⟩

/-- **C12 at the level of the poll loop** (batched flavour, static chains of Head / Tail / Skip / Filter / FilterMap of
    any depth): whenever the pipeline is polled in a state satisfying `PipeInv`, then — unless the model's fuel runs
    out — `PipeInv` holds afterwards, no stage panics, and an item handed out is a valid container that takes the
    composed view before the poll to the composed view after it; `Pending` / `End` leave the composed view as it is. -/
theorem pipe_poll_sound {α} (T : Tables α) (sub : Nat) :
    ∀ (fuel : Nat) (sts : List (Stage α)) (w : PWorld α), PipeInv T sub sts w →
      (pollStages T true sub fuel sts w).1 = .panic ∨
      (PipeInv T sub (pollStages T true sub fuel sts w).2.1 (pollStages T true sub fuel sts w).2.2 ∧
       ∃ v v', pipeView T sub sts w = some v ∧
         pipeView T sub (pollStages T true sub fuel sts w).2.1 (pollStages T true sub fuel sts w).2.2 = some v' ∧
         match itemDiffs (pollStages T true sub fuel sts w).1 with
         | some ds => ValidSeq ds v ∧ applyAll ds v = some v'
         | none => v' = v) := by
  intro fuel sts w ⟨hv, ht, hst, r, rep, hr, hal, hrep, hci⟩
  rcases hres : pollStages T true sub fuel sts w with ⟨it, sts', w'⟩
  rcases pollStages_sound_batched T (nt := false) sub fuel sts w r rep ⟨hv, ht, nofun⟩
      (fun st h => by
        obtain ⟨hready, hlim, hnosort⟩ := hst st h
        exact .of_noSort (fun _ => hready) hnosort fun _ => hlim) hr hal hrep hci hres
    with hp | ⟨r', rep', ⟨hv', ht', -⟩, hok', hr', hal', hrep', hci', hview, hview', hitem, -⟩
  · exact .inl hp
  · exact .inr ⟨⟨hv', ht', fun st h => ⟨(hok' st h).1 rfl, pollStages_class hres
      (fun l s _ => l = none ∧ s = false) (fun st h => (hst st h).2) st h⟩, r', rep', hr', hal', hrep', hci'⟩, _, _, hview, hview', hitem⟩

/-- static, non-Sort stage specifications -/
def StageSpec.isStaticNoSort : StageSpec → Bool
  | .head _ | .tail _ | .skip _ | .filter _ => true
  | _ => false

/-- **the pipeline invariant holds from construction on**: subscribe at any reachable state of the vector, build any
    static chain of Head / Tail / Skip / Filter stages on the snapshot — `PipeInv` holds and the composed view is the
    initial values the outermost constructor hands out -/
theorem pipeInv_initial {α} (T : Tables α) (s : OV α) (hr : Reach s) (htx : s.txn = none) (b : Bool)
    (specs : List StageSpec) (h : ∀ sp ∈ specs, sp.isStaticNoSort = true) (lims : List Lim) :
    let s' := (s.subscribe b).1
    let id := (s.subscribe b).2.1
    let p := mkPipe T (s.subscribe b).2.2 specs
    PipeInv T id p.1 { ov := s', lims } ∧ pipeView T id p.1 { ov := s', lims } = some p.2 := by
  have hv := reach_inv hr
  have ht : TInv s := by obtain ⟨c, evs, hc, rfl⟩ := hr; exact tinv_run c hc evs
  obtain ⟨hci, hview⟩ := mkPipe_spec T s.vals specs fun _ hm => (nomatch h _ hm)
  have hsub : (s.subscribe b).1.subs[s.subs.length]? = some { alive := true, batched := b, next := s.log.length, rest := [], waiting := false, replica := some s.vals } :=
    List.getElem?_concat_length ..
  refine ⟨⟨vinv_grow hv (grow_subscribe s b htx), tinv_grow hv ht (grow_subscribe s b htx),
      mkPipe_forall T _ specs StaticStage fun sp hsp v => ?_, _, s.vals, hsub, rfl, rfl, hci⟩,
    (pipeView_eq T _ _ _ _ s.vals hsub rfl).trans (congrArg some hview)⟩
  have := h sp hsp
  cases sp with
  | head _ | tail _ | skip _ | filter _ => exact ⟨rfl, rfl, rfl⟩
  | _ => cases this

/-- the pipeline invariant for static chains of *any* stage kinds, Sort included, over a source that never truncates -/
def PipeInvNT {α} (T : Tables α) (sub : Nat) (sts : List (Stage α)) (w : PWorld α) : Prop :=
  VInv w.ov ∧ TInv w.ov ∧ RestIn w.ov ∧ NoTruncLog w.ov ∧ (∀ st ∈ sts, st.ready = [] ∧ st.limOf = none) ∧
  ∃ r rep, w.ov.subs[sub]? = some r ∧ r.alive = true ∧ r.replica = some rep ∧ ChainInv T sts.reverse rep

/-- **the poll-loop theorem with Sort stages**: as `pipe_poll_sound`, for static chains of any kinds (Sort / SortBy /
    SortByKey included, each with a lawful comparator and sort function — part of `Stage.Inv`), over a source that
    has never truncated (the `Truncate` arm of Sort is the known finding D4) -/
theorem pipe_poll_sound_nt {α} (T : Tables α) (sub : Nat) :
    ∀ (fuel : Nat) (sts : List (Stage α)) (w : PWorld α), PipeInvNT T sub sts w →
      (pollStages T true sub fuel sts w).1 = .panic ∨
      (PipeInvNT T sub (pollStages T true sub fuel sts w).2.1 (pollStages T true sub fuel sts w).2.2 ∧
       ∃ v v', pipeView T sub sts w = some v ∧
         pipeView T sub (pollStages T true sub fuel sts w).2.1 (pollStages T true sub fuel sts w).2.2 = some v' ∧
         match itemDiffs (pollStages T true sub fuel sts w).1 with
         | some ds => ValidSeq ds v ∧ applyAll ds v = some v' ∧ NoTrunc ds
         | none => v' = v) := by
  intro fuel sts w ⟨hv, ht, hri, hnl, hst, r, rep, hr, hal, hrep, hci⟩
  rcases hres : pollStages T true sub fuel sts w with ⟨it, sts', w'⟩
  rcases pollStages_sound_batched T (nt := true) sub fuel sts w r rep ⟨hv, ht, fun _ => ⟨hri, hnl⟩⟩
      (fun st h => .of_noLim (fun _ => (hst st h).1) (hst st h).2 ((hst st h).1 ▸ noTrunc_nil)) hr hal hrep hci hres
    with hp | ⟨r', rep', ⟨hv', ht', hlog'⟩, hok', hr', hal', hrep', hci', hview, hview', hitem, hnotrunc⟩
  · exact .inl hp
  · refine .inr ⟨⟨hv', ht', (hlog' rfl).1, (hlog' rfl).2, fun st h => ⟨(hok' st h).1 rfl, pollStages_class hres
      (fun l _ _ => l = none) (fun st h => (hst st h).2) st h⟩, r', rep', hr', hal', hrep', hci'⟩, _, _, hview, hview', ?_⟩
    revert hitem hnotrunc
    cases itemDiffs it with
    | some ds => exact fun ⟨h1, h2⟩ h3 => ⟨h1, h2, h3 rfl ds rfl⟩
    | none => exact fun h _ => h

/-- a stage with nothing buffered that is not a Sort; a Tail only if it is static -/
def DynStage {α} (st : Stage α) : Prop := st.ready = [] ∧ st.isSort = false ∧ (st.isTail = true → st.limOf = none)

def PipeInvD {α} (T : Tables α) (sub : Nat) (sts : List (Stage α)) (w : PWorld α) : Prop :=
  VInv w.ov ∧ TInv w.ov ∧ (∀ st ∈ sts, DynStage st) ∧
  ∃ r rep, w.ov.subs[sub]? = some r ∧ r.alive = true ∧ r.replica = some rep ∧ ChainInv T sts.reverse rep

/-- **the poll-loop theorem with dynamic limits / counts** (batched flavour; chains of static or dynamic Head and Skip,
    static Tail, Filter / FilterMap, any depth, any queue of announced limit values): as `pipe_poll_sound`; an item may
    now also stem from a limit / count change, and it still takes the composed view before the poll to the one after -/
theorem pipe_poll_sound_d {α} (T : Tables α) (sub : Nat) :
    ∀ (fuel : Nat) (sts : List (Stage α)) (w : PWorld α), PipeInvD T sub sts w →
      (pollStages T true sub fuel sts w).1 = .panic ∨
      (PipeInvD T sub (pollStages T true sub fuel sts w).2.1 (pollStages T true sub fuel sts w).2.2 ∧
       ∃ v v', pipeView T sub sts w = some v ∧
         pipeView T sub (pollStages T true sub fuel sts w).2.1 (pollStages T true sub fuel sts w).2.2 = some v' ∧
         match itemDiffs (pollStages T true sub fuel sts w).1 with
         | some ds => ValidSeq ds v ∧ applyAll ds v = some v'
         | none => v' = v) := by
  intro fuel sts w ⟨hv, ht, hst, r, rep, hr, hal, hrep, hci⟩
  rcases hres : pollStages T true sub fuel sts w with ⟨it, sts', w'⟩
  rcases pollStages_sound_batched T (nt := false) sub fuel sts w r rep ⟨hv, ht, nofun⟩
      (fun st h => by
        obtain ⟨hready, hnosort, htail⟩ := hst st h
        exact .of_noSort (fun _ => hready) hnosort htail) hr hal hrep hci hres
    with hp | ⟨r', rep', ⟨hv', ht', -⟩, hok', hr', hal', hrep', hci', hview, hview', hitem, -⟩
  · exact .inl hp
  · exact .inr ⟨⟨hv', ht', fun st h => ⟨(hok' st h).1 rfl, pollStages_class hres
      (fun l s t => s = false ∧ (t = true → l = none)) (fun st h => (hst st h).2) st h⟩, r', rep', hr', hal', hrep', hci'⟩,
      _, _, hview, hview', hitem⟩

theorem pollStages_sound_unbatched {α} (T : Tables α) (nt : Bool) (sub fuel : Nat) (sts : List (Stage α)) (w : PWorld α) (top : List α)
    (h : PollInv T false nt sub sts w.ov top) {it : Item α} {sts' : List (Stage α)} {w' : PWorld α}
    (hres : pollStages T false sub fuel sts w = (it, sts', w')) :
    it = .panic ∨
    ∃ top', PollInv T false nt sub sts' w'.ov top' ∧
      (match (generalizing := false) it with    -- or `hres` becomes a second discriminant
       | .one d => d.validOn top = true ∧ d.apply top = some top'
       | .pending | .done => top' = top
       | _ => False) ∧
      (nt = true → ∀ d, it = .one d → ∀ n, d ≠ .truncate n) := by
  have hpost := pollStages_sound T false nt sub fuel sts w top h
  rw [hres] at hpost
  rcases hpost with hp | ⟨top', hinv, hnb, hitem, hnotrunc⟩
  · exact .inl hp
  · cases it with
    | one d => exact .inr ⟨top', hinv, (validRun_single d top top').mp hitem, fun h _ e n => by cases e; exact (noTrunc_cons.mp (hnotrunc h _ rfl)).1 n⟩
    | batch ds => exact absurd rfl (hnb rfl ds)
    | panic => exact .inl rfl
    | pending | done => exact .inr ⟨top', hinv, hitem, nofun⟩

/-- **C12 / C13 at the level of the poll loop, unbatched flavour** (static chains of Head / Tail / Skip / Filter /
    FilterMap of any depth on a plain subscriber): the pipeline hands out one diff at a time, buffering the rest of what
    one update maps to; whatever the consumer has been shown so far (`top`), the diff handed out is valid on it and
    leads to a view `top'` from which the diffs still buffered in every stage lead to the stages' true views
    (`ShownTop`); `Pending` / `End` leave everything as it is; no stage panics. -/
theorem pipe_poll_sound_u {α} (T : Tables α) (sub : Nat) :
    ∀ (fuel : Nat) (sts : List (Stage α)) (w : PWorld α) (r : Sub α) (rep top : List α),
      VInv w.ov → TInv w.ov → (∀ st ∈ sts, st.limOf = none ∧ st.isSort = false) →
      w.ov.subs[sub]? = some r → r.alive = true → r.batched = false → r.replica = some rep → ShownTop T sts rep top →
      (pollStages T false sub fuel sts w).1 = .panic ∨
      (VInv (pollStages T false sub fuel sts w).2.2.ov ∧ TInv (pollStages T false sub fuel sts w).2.2.ov ∧
       (∀ st ∈ (pollStages T false sub fuel sts w).2.1, st.limOf = none ∧ st.isSort = false) ∧
       ∃ r' rep' top', (pollStages T false sub fuel sts w).2.2.ov.subs[sub]? = some r' ∧ r'.alive = true ∧ r'.batched = false ∧
         r'.replica = some rep' ∧ ShownTop T (pollStages T false sub fuel sts w).2.1 rep' top' ∧
         match (pollStages T false sub fuel sts w).1 with
         | .one d => d.validOn top = true ∧ d.apply top = some top'
         | .pending | .done => top' = top
         | _ => False) := by
  intro fuel sts w r rep top hv ht hst hr hal hnb hrep hsh
  rcases hres : pollStages T false sub fuel sts w with ⟨it, sts', w'⟩
  rcases pollStages_sound_unbatched T (nt := false) sub fuel sts w top ⟨⟨hv, ht, nofun⟩,
      fun st h => .of_noSort nofun (hst st h).2 fun _ => (hst st h).1, r, rep, hr, hal, fun _ => hnb, hrep, hsh⟩ hres
    with hp | ⟨top', ⟨⟨hv', ht', -⟩, -, r', rep', hr', hal', hnb', hrep', hsh'⟩, hitem, -⟩
  · exact .inl hp
  · exact .inr ⟨hv', ht', pollStages_class hres (fun l s _ => l = none ∧ s = false) hst,
      r', rep', top', hr', hal', hnb' rfl, hrep', hsh', hitem⟩

theorem mkPipe_shownTop {α} (T : Tables α) (vals : List α) (specs : List StageSpec)
    (hT : ∀ cid, .sort cid ∈ specs → LawfulCmp (T.cmp cid) ∧ SortSpec (T.cmp cid) (T.sort cid)) :
    ShownTop T (mkPipe T vals specs).1 vals (mkPipe T vals specs).2 := by
  obtain ⟨hci, hview⟩ := mkPipe_spec T vals specs hT
  exact (shownTop_ready_nil T _ vals _ (mkPipe_ready T vals specs)).mpr ⟨hci, hview.symm⟩

/-- the invariant of the unbatched pipeline holds from construction on: nothing buffered, the shown view is the
    initial values the outermost constructor hands out -/
theorem shownTop_initial {α} (T : Tables α) (vals : List α) (specs : List StageSpec) (h : ∀ sp ∈ specs, sp.isStaticNoSort = true) :
    ShownTop T (mkPipe T vals specs).1 vals (mkPipe T vals specs).2 :=
  mkPipe_shownTop T vals specs fun _ hm => (nomatch h _ hm)

/-- a stage that is not a Sort; a Tail only if it is static (the dynamic Tail's `update_limit` is the known finding D2) -/
def UDStage {α} (st : Stage α) : Prop := st.isSort = false ∧ (st.isTail = true → st.limOf = none)

/-- **the poll-loop theorem for the unbatched flavour with dynamic limits / counts** (chains of static or dynamic Head and
    Skip, static Tail, Filter / FilterMap, any depth, any queue of announced values): every poll hands out one diff that is
    valid on what the consumer has been shown so far and leads to a state from which the diffs still buffered in the stages
    lead to the stages' true views — whether the diff stems from the source or from a limit / count change -/
theorem pipe_poll_sound_ud {α} (T : Tables α) (sub : Nat) :
    ∀ (fuel : Nat) (sts : List (Stage α)) (w : PWorld α) (r : Sub α) (rep top : List α),
      VInv w.ov → TInv w.ov → (∀ st ∈ sts, UDStage st) →
      w.ov.subs[sub]? = some r → r.alive = true → r.batched = false → r.replica = some rep → ShownTop T sts rep top →
      (pollStages T false sub fuel sts w).1 = .panic ∨
      (VInv (pollStages T false sub fuel sts w).2.2.ov ∧ TInv (pollStages T false sub fuel sts w).2.2.ov ∧
       (∀ st ∈ (pollStages T false sub fuel sts w).2.1, UDStage st) ∧
       ∃ r' rep' top', (pollStages T false sub fuel sts w).2.2.ov.subs[sub]? = some r' ∧ r'.alive = true ∧ r'.batched = false ∧
         r'.replica = some rep' ∧ ShownTop T (pollStages T false sub fuel sts w).2.1 rep' top' ∧
         match (pollStages T false sub fuel sts w).1 with
         | .one d => d.validOn top = true ∧ d.apply top = some top'
         | .pending | .done => top' = top
         | _ => False) := by
  intro fuel sts w r rep top hv ht hst hr hal hnb hrep hsh
  rcases hres : pollStages T false sub fuel sts w with ⟨it, sts', w'⟩
  rcases pollStages_sound_unbatched T (nt := false) sub fuel sts w top ⟨⟨hv, ht, nofun⟩,
      fun st h => .of_noSort nofun (hst st h).1 (hst st h).2, r, rep, hr, hal, fun _ => hnb, hrep, hsh⟩ hres
    with hp | ⟨top', ⟨⟨hv', ht', -⟩, -, r', rep', hr', hal', hnb', hrep', hsh'⟩, hitem, -⟩
  · exact .inl hp
  · exact .inr ⟨hv', ht', pollStages_class hres (fun l s t => s = false ∧ (t = true → l = none)) hst,
      r', rep', top', hr', hal', hnb' rfl, hrep', hsh', hitem⟩

/-- the constructors the theorem covers: everything but Sort and a dynamic Tail -/
def StageSpec.isUD : StageSpec → Bool
  | .sort _ | .dtail _ | .dtaili _ _ => false
  | _ => true

/-- the invariant of the unbatched pipeline with dynamic stages holds from construction on -/
theorem shownTop_initial_ud {α} (T : Tables α) (vals : List α) (specs : List StageSpec) (h : ∀ sp ∈ specs, sp.isUD = true) :
    ShownTop T (mkPipe T vals specs).1 vals (mkPipe T vals specs).2 ∧ ∀ st ∈ (mkPipe T vals specs).1, UDStage st := by
  refine ⟨mkPipe_shownTop T vals specs fun _ hm => (nomatch h _ hm), mkPipe_forall T vals specs UDStage fun sp hsp v => ?_⟩
  have := h sp hsp
  cases sp with
  | sort _ | dtail _ | dtaili _ _ => cases this
  | tail _ => exact ⟨rfl, fun _ => rfl⟩
  | head _ | dhead _ | dheadi _ _ | skip _ | dskip _ | dskipi _ _ | filter _ => exact ⟨rfl, nofun⟩

/-- `ShownTop` with the additional fact that nothing buffered in a stage is a `Truncate` -/
def ShownTopNT {α} (T : Tables α) : List (Stage α) → List α → List α → Prop
  | [], rep, top => top = rep
  | st :: inner, rep, top => ∃ mid, ShownTopNT T inner rep mid ∧ st.Inv T mid ∧ ValidSeq st.ready top ∧
      applyAll st.ready top = some (st.viewOn T mid) ∧ NoTrunc st.ready

theorem shownTopNT_iff {α} (T : Tables α) : ∀ (sts : List (Stage α)) (rep top : List α),
    ShownTopNT T sts rep top ↔ ShownTop T sts rep top ∧ ∀ st ∈ sts, NoTrunc st.ready := by
  intro sts
  induction sts with
  | nil => intro rep top; simp [ShownTop, ShownTopNT]
  | cons st inner ih =>
    intro rep top
    simp only [ShownTop, ShownTopNT, ih, List.forall_mem_cons]
    constructor
    · rintro ⟨mid, ⟨a, b⟩, c, d, e, f⟩; exact ⟨⟨mid, a, c, d, e⟩, f, b⟩
    · rintro ⟨⟨mid, a, c, d, e⟩, f, b⟩; exact ⟨mid, ⟨a, b⟩, c, d, e, f⟩

/-- **the poll-loop theorem for the unbatched flavour with Sort stages**: static chains of ANY stage kinds and depth over
    a source that has never truncated; every poll hands out one diff — never a `Truncate` — that is valid on what the
    consumer has been shown so far, and the diffs still buffered in the stages lead to the stages' true views -/
theorem pipe_poll_sound_unt {α} (T : Tables α) (sub : Nat) :
    ∀ (fuel : Nat) (sts : List (Stage α)) (w : PWorld α) (r : Sub α) (rep top : List α),
      VInv w.ov → TInv w.ov → RestIn w.ov → NoTruncLog w.ov → (∀ st ∈ sts, st.limOf = none) →
      w.ov.subs[sub]? = some r → r.alive = true → r.batched = false → r.replica = some rep → ShownTopNT T sts rep top →
      (pollStages T false sub fuel sts w).1 = .panic ∨
      (VInv (pollStages T false sub fuel sts w).2.2.ov ∧ TInv (pollStages T false sub fuel sts w).2.2.ov ∧
       RestIn (pollStages T false sub fuel sts w).2.2.ov ∧ NoTruncLog (pollStages T false sub fuel sts w).2.2.ov ∧
       (∀ st ∈ (pollStages T false sub fuel sts w).2.1, st.limOf = none) ∧
       ∃ r' rep' top', (pollStages T false sub fuel sts w).2.2.ov.subs[sub]? = some r' ∧ r'.alive = true ∧ r'.batched = false ∧
         r'.replica = some rep' ∧ ShownTopNT T (pollStages T false sub fuel sts w).2.1 rep' top' ∧
         match (pollStages T false sub fuel sts w).1 with
         | .one d => d.validOn top = true ∧ d.apply top = some top' ∧ ∀ n, d ≠ .truncate n
         | .pending | .done => top' = top
         | _ => False) := by
  intro fuel sts w r rep top hv ht hri hnl hst hr hal hnb hrep hsh
  obtain ⟨hsh, hnr⟩ := (shownTopNT_iff T sts rep top).mp hsh
  rcases hres : pollStages T false sub fuel sts w with ⟨it, sts', w'⟩
  rcases pollStages_sound_unbatched T (nt := true) sub fuel sts w top ⟨⟨hv, ht, fun _ => ⟨hri, hnl⟩⟩,
      fun st h => .of_noLim nofun (hst st h) (hnr st h), r, rep, hr, hal, fun _ => hnb, hrep, hsh⟩ hres
    with hp | ⟨top', ⟨⟨hv', ht', hlog'⟩, hok', r', rep', hr', hal', hnb', hrep', hsh'⟩, hitem, hnotrunc⟩
  · exact .inl hp
  · refine .inr ⟨hv', ht', (hlog' rfl).1, (hlog' rfl).2, pollStages_class hres (fun l _ _ => l = none) hst,
      r', rep', top', hr', hal', hnb' rfl, hrep',
      (shownTopNT_iff T _ rep' top').mpr ⟨hsh', fun st h => by obtain ⟨-, -, -, hntr⟩ := hok' st h; exact hntr rfl⟩, ?_⟩
    revert hitem hnotrunc
    cases it with
    | one d => exact fun ⟨h1, h2⟩ h3 => ⟨h1, h2, h3 rfl d rfl⟩
    | pending | done | batch _ | panic => exact fun h _ => h

/-- static constructors (any kind, Sort included) -/
def StageSpec.isStatic : StageSpec → Bool
  | .head _ | .tail _ | .skip _ | .filter _ | .sort _ => true
  | _ => false

/-- the invariant of the unbatched pipeline with Sort stages holds from construction on (lawful comparators and sort
    functions) -/
theorem shownTopNT_initial {α} (T : Tables α) (hT : ∀ cid, LawfulCmp (T.cmp cid) ∧ SortSpec (T.cmp cid) (T.sort cid))
    (vals : List α) (specs : List StageSpec) (h : ∀ sp ∈ specs, sp.isStatic = true) :
    ShownTopNT T (mkPipe T vals specs).1 vals (mkPipe T vals specs).2 ∧ ∀ st ∈ (mkPipe T vals specs).1, st.limOf = none := by
  refine ⟨(shownTopNT_iff T _ _ _).mpr ⟨mkPipe_shownTop T vals specs fun cid _ => hT cid,
      fun st hst => mkPipe_ready T vals specs st hst ▸ noTrunc_nil⟩,
    mkPipe_forall T vals specs (fun st => st.limOf = none) fun sp hsp v => ?_⟩
  have := h sp hsp
  cases sp with
  | head _ | tail _ | skip _ | filter _ | sort _ => rfl
  | dhead _ | dheadi _ _ | dtail _ | dtaili _ _ | dskip _ | dskipi _ _ => cases this

end EV
