/-
  C05 / C06 / C08 at every reachable state: the theorems here quantify over every capacity, every finite
  sequence of events (updates, traversals, transactions with commit / rollback / drop, subscriptions of both
  flavours, subscriber drops, the vector's drop, polls of any receiver in any order) — `Reach` — and are
  corollaries of the invariant `VInv` (Lemmas/StreamInv.lean).
-/
import EyeballVerif.Lemmas.StreamInv
import EyeballVerif.Model.Pipe  -- `itemDiffs`, for `pollN`
namespace EV

/-- `s` is reachable: some capacity the constructor accepts, some event sequence -/
def Reach {α} (s : OV α) : Prop := ∃ (c : Nat) (evs : List (VEv α)), c ≤ 2 ^ 64 ∧ s = evs.foldl OV.vstep (OV.new c)

theorem reach_inv {α} {s : OV α} (h : Reach s) : VInv s := by
  obtain ⟨c, evs, hc, rfl⟩ := h
  exact vinv_run c hc evs

/-- **C05 (replay invariant).** At every reachable state, for every live subscriber: every diff it was ever
    handed was applicable where it was applied (the replica is defined), and replaying what the channel still
    owes it on its replica gives exactly the vector's current contents. -/
theorem c05_replay_inv {α} {s : OV α} (hr : Reach s) (i : Nat) (r : Sub α) (h : s.subs[i]? = some r) (ha : r.alive = true) :
    ∃ rep, r.replica = some rep ∧ applyAll (owed s.log r) rep = some s.vals :=
  ((reach_inv hr).subs i r h ha).2.2

/-- C05: a subscriber that has nothing pending holds exactly the contents -/
theorem c05_caught_up_equal {α} {s : OV α} (hr : Reach s) (i : Nat) (r : Sub α) (h : s.subs[i]? = some r) (ha : r.alive = true)
    (hrest : r.rest = []) (hn : s.log.length ≤ r.next) : r.replica = some s.vals :=
  (reach_inv hr).synced h ha (owed_caught_up s.log r hrest hn)

/-- C05: no reachable poll hits the `unreachable!()` / "lagged twice" panics -/
theorem c05_never_panics {α} {s : OV α} (hr : Reach s) (i : Nat) (s' : OV α) : s.poll i ≠ some (.panic, s') := by
  intro h
  obtain ⟨r, r', rep, hp⟩ := polled_of_poll s s' i .panic (reach_inv hr) h
  exact hp.no_panic rfl

theorem poll_pending_or_end_synced {α} {s s' : OV α} (hi : VInv s) (i : Nat) (it : Item α) (hit : it = .pending ∨ it = .done)
    (h : s.poll i = some (it, s')) :
    (it = .pending ∧ s.alive = true ∨ it = .done ∧ s.alive = false) ∧
    ∃ r r', s.subs[i]? = some r ∧ s'.subs[i]? = some r' ∧ r.replica = some s.vals ∧ r'.replica = some s.vals := by
  obtain ⟨r, r', rep, hp⟩ := polled_of_poll s s' i it hi h
  rcases hp.outcome with ⟨hend, ho, ho'⟩ | ⟨ds, hds, -⟩ | ⟨hres, -⟩
  · exact ⟨hend, r, r', hp.sub, hp.sub', hi.synced hp.sub hp.alive ho, hp.synced' ho'⟩
  · rcases hit with rfl | rfl <;> rcases hds with e | ⟨d, e, -⟩ <;> cases e
  · rcases hit with rfl | rfl <;> rcases hres with e | e <;> cases e

/-- **C06 / C14 (Pending means in sync).** At a reachable state, a poll answers `Pending` only to a receiver
    whose replica already equals the vector's contents; nothing changes but the parked flag. -/
theorem c06_pending_synced {α} {s s' : OV α} (hr : Reach s) (i : Nat) (h : s.poll i = some (.pending, s')) :
    s.alive = true ∧ ∃ r r', s.subs[i]? = some r ∧ s'.subs[i]? = some r' ∧ r.replica = some s.vals ∧ r'.replica = some s.vals := by
  obtain ⟨⟨-, halive⟩ | ⟨hdone, -⟩, hsync⟩ := poll_pending_or_end_synced (reach_inv hr) i _ (Or.inl rfl) h
  · exact ⟨halive, hsync⟩
  · cases hdone

/-- **C08 (End means the final contents were delivered).** At a reachable state a stream ends only after the
    vector was dropped and only when the receiver's replica equals the final contents. -/
theorem c08_end_final {α} {s s' : OV α} (hr : Reach s) (i : Nat) (h : s.poll i = some (.done, s')) :
    s.alive = false ∧ ∃ r r', s.subs[i]? = some r ∧ s'.subs[i]? = some r' ∧ r.replica = some s.vals ∧ r'.replica = some s.vals := by
  obtain ⟨⟨hpending, -⟩ | ⟨-, hdropped⟩, hsync⟩ := poll_pending_or_end_synced (reach_inv hr) i _ (Or.inr rfl) h
  · cases hpending
  · exact ⟨hdropped, hsync⟩

/-- **C06 (a lagged receiver is resynchronised).** At a reachable state, a receiver that is between batches
    and more than a window behind gets exactly one `Reset` carrying the *current* contents (alone in its batch
    for the batched flavour); afterwards its replica equals the contents and nothing is owed to it. -/
theorem c06_lagged_reset_current {α} {s s' : OV α} (hr : Reach s) (i : Nat) (it : Item α) (r : Sub α)
    (h : s.poll i = some (it, s')) (hs : s.subs[i]? = some r) (hrest : r.rest = []) (hlag : r.next + s.B < s.log.length) :
    (it = .one (.reset s.vals) ∨ it = .batch [.reset s.vals]) ∧
    ∃ r', s'.subs[i]? = some r' ∧ r'.replica = some s.vals ∧ owed s.log r' = [] := by
  have hi := reach_inv hr
  obtain ⟨r0, r', rep, hp⟩ := polled_of_poll s s' i it hi h
  obtain rfl : r = r0 := Option.some.inj (hs.symm.trans hp.sub)
  rcases hp.outcome with ⟨-, ho, -⟩ | ⟨ds, -, hnl, -⟩ | ⟨hres, -, -, ho'⟩
  · exact absurd ho (owed_ne_nil hi.no_empty (by omega))
  · exact absurd ⟨hrest, hlag⟩ hnl
  · exact ⟨hres, r', hp.sub', hp.synced' ho', ho'⟩

/-- **C05 / C06 (a delivered item replays).** At a reachable state every delivered diff / batch is applicable
    to the receiver's replica, strictly, and after it the rest of what is owed still leads to the contents. -/
theorem c05_delivered_applicable {α} {s s' : OV α} (hr : Reach s) (i : Nat) (it : Item α)
    (h : s.poll i = some (it, s')) :
    ∃ r r' rep rep', s.subs[i]? = some r ∧ s'.subs[i]? = some r' ∧ r.replica = some rep ∧ r'.replica = some rep' ∧
      ghostRep it (some rep) = some rep' ∧ applyAll (owed s'.log r') rep' = some s'.vals ∧ s'.vals = s.vals ∧ s'.log = s.log := by
  obtain ⟨r, r', rep, hp⟩ := polled_of_poll s s' i it (reach_inv hr) h
  obtain ⟨rep', hrep', hreplay'⟩ := hp.replays'
  exact ⟨r, r', rep, rep', hp.sub, hp.sub', hp.replica, hrep', by rw [← hp.replica', hrep'],
    by rw [hp.log_eq, hp.vals_eq]; exact hreplay', hp.vals_eq, hp.log_eq⟩

theorem reach_restIn {α} {s : OV α} (h : Reach s) : RestIn s := by
  obtain ⟨c, evs, hc, rfl⟩ := h
  exact restIn_run c hc evs

/-- **C06 (a `Reset` means lag, and is current).** At a reachable state, whenever a delivered item contains a
    `Reset`, the receiver was between batches and more than a window behind, the `Reset` is the whole item and
    it carries exactly the current contents. No update ever produces a `Reset` by itself. -/
theorem c06_reset_only_when_lagged {α} {s s' : OV α} (hr : Reach s) (i : Nat) (it : Item α) (vs : List α)
    (h : s.poll i = some (it, s'))
    (hres : it = .one (.reset vs) ∨ ∃ ds, it = .batch ds ∧ Diff.reset vs ∈ ds) :
    vs = s.vals ∧ (it = .one (.reset s.vals) ∨ it = .batch [.reset s.vals]) ∧
    ∃ r, s.subs[i]? = some r ∧ r.rest = [] ∧ r.next + s.B < s.log.length := by
  have hi := reach_inv hr
  obtain ⟨r, r0, hs, ha, hp, rfl⟩ := OV.poll_rule h
  -- no `Reset` in the log, and the remainder comes out of the log (`RestIn`)
  obtain ⟨hl, hrest, ⟨m, hm, rfl⟩, hit, -⟩ := hp.of_reset hi.no_reset
    (fun _ d hd => by obtain ⟨m, hm, hdm⟩ := reach_restIn hr i r hs d hd; exact hi.no_reset m hm d hdm) hres
  have hv := hi.last_state hs ha (by omega) hm
  exact ⟨hv, by rw [hit, hv]; exact resetItem_cases .., r, hs,
    (Bool.eq_false_or_eq_true r.batched).elim (hi.subs i r hs ha).1 hrest, hl⟩

/-- non-vacuity: a concrete history (capacity 1, two subscribers, five updates, a transaction, a lagged poll)
    is reachable and the plain subscriber is then lagged -/
example : Reach ((([.subscribe false, .subscribe true, .direct (.pushBack 1), .direct (.pushBack 2),
    .direct (.pushBack 3), .txnBegin, .txnOp (.set 0 9), .txnCommit, .poll 1] : List (VEv Nat)).foldl OV.vstep (OV.new 1))) :=
  ⟨1, _, by decide, rfl⟩

/-- poll receiver `i` `n` times with nothing happening in between, collecting the diffs handed out -/
def pollN {α} (s : OV α) (i : Nat) : Nat → OV α × List (Diff α)
  | 0 => (s, [])
  | n + 1 =>
    match s.poll i with
    | some (it, s') => let r := pollN s' i n; (r.1, (itemDiffs it).getD [] ++ r.2)
    | none => (s, [])

/-- **C05: what is received does not depend on how often the subscriber is polled.** A receiver that has not lagged
    and is polled until it has caught up — any number of polls at least the number of pending diffs for the plain
    flavour, one poll for the batched flavour — receives exactly the diffs published since its cursor, in order:
    the same list for both flavours, whenever the polls happen. -/
theorem c05_drain_delivers_owed {α} (n : Nat) : ∀ (s : OV α), VInv s → ∀ (i : Nat) (r : Sub α), s.subs[i]? = some r → r.alive = true →
    ¬ (r.next + s.B < s.log.length) → (owed s.log r).length ≤ n →
    (pollN s i n).2 = owed s.log r ∧
    ∃ r', (pollN s i n).1.subs[i]? = some r' ∧ owed (pollN s i n).1.log r' = [] ∧ r'.replica = some s.vals := by
  induction n with
  | zero =>
    intro s hv i r hr ha _ hlen
    have ho : owed s.log r = [] := List.eq_nil_of_length_eq_zero (Nat.le_zero.mp hlen)
    exact ⟨ho.symm, r, hr, ho, hv.synced hr ha ho⟩
  | succ n ih =>
    intro s hv i r hr ha hnl hlen
    obtain ⟨it, s', hpoll⟩ : ∃ it s', s.poll i = some (it, s') := ⟨_, _, s.poll_eq i r hr ha⟩
    obtain ⟨r0, r', rep, hp⟩ := polled_of_poll s s' i it hv hpoll
    obtain rfl : r = r0 := Option.some.inj (hr.symm.trans hp.sub)
    -- handed out: a prefix of what is owed, empty only if nothing is owed
    have hstep : owed s.log r = (itemDiffs it).getD [] ++ owed s.log r' ∧ (owed s.log r').length ≤ n := by
      rcases hp.outcome with ⟨hend, ho, ho'⟩ | ⟨ds, hds, -, ho⟩ | ⟨-, -, hlag, -⟩
      · rw [ho, ho']
        rcases hend with ⟨rfl, _⟩ | ⟨rfl, _⟩ <;> exact ⟨rfl, Nat.zero_le _⟩
      · have hne : ds ≠ [] := by
          rcases hds with rfl | ⟨d, _, rfl⟩
          · exact fun e => OV.poll_no_empty_batch s s' i _ hv.no_empty hpoll (e ▸ rfl)
          · exact List.cons_ne_nil _ _
        have hit : (itemDiffs it).getD [] = ds := by rcases hds with rfl | ⟨d, rfl, rfl⟩ <;> rfl
        have := List.length_pos_iff.mpr hne
        rw [ho, List.length_append] at hlen
        exact ⟨by rw [hit, ho], by omega⟩
      · exact absurd hlag hnl
    have hnext_le := hp.next_le
    obtain ⟨hrest, r'', hsub'', hnone, hrep''⟩ := ih s' (vinv_poll s s' i it hv hpoll) i r' hp.sub' hp.alive'
      (by rw [hp.window_eq, hp.log_eq]; omega) (by rw [hp.log_eq]; exact hstep.2)
    simp only [pollN, hpoll]
    rw [hrest, hp.log_eq, hstep.1]
    exact ⟨rfl, r'', hsub'', hnone, by rw [hrep'', hp.vals_eq]⟩

end EV
