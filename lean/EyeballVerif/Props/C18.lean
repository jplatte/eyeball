/-
  C18 — `VectorDiff::map` commutes with `apply`; `map id` is the identity; `apply` panics exactly for
  insert/set/remove beyond the end and otherwise performs the documented change.
  Only property theorems and their non-vacuity examples live in this file.
-/
import EyeballVerif.Model.Diff
import EyeballVerif.Lemmas.ListExtra
import EyeballVerif.Lemmas.ApplyAll
namespace EV

/-- Mapping the diff and the vector, then applying, equals applying and then mapping
    (a panic on one side is a panic on the other): for every diff, vector and mapping. -/
theorem c18_map_apply {α β} (f : α → β) (d : Diff α) (l : List α) :
    (d.map f).apply (l.map f) = (d.apply l).map (List.map f) := by
  cases d <;> simp only [Diff.map, Diff.apply, Option.map_some, Option.map_if, List.map_append, List.map_cons, List.map_nil,
    List.map_tail, List.map_dropLast, List.map_take, List.map_drop, List.map_set, List.length_map, map_eraseIdx]

theorem c18_map_id {α} (d : Diff α) : d.map id = d := by
  cases d <;> simp [Diff.map]

/-- `apply` panics exactly for insert beyond the end and set/remove at or beyond the end. -/
theorem c18_apply_panics_iff {α} (d : Diff α) (l : List α) :
    d.apply l = none ↔
      (∃ i v, d = .insert i v ∧ l.length < i) ∨ (∃ i v, d = .set i v ∧ l.length ≤ i) ∨
      (∃ i, d = .remove i ∧ l.length ≤ i) := by
  cases d <;> simp [Diff.apply]

/-- A diff that is strictly applicable never panics. -/
theorem c18_applicable_no_panic {α} (d : Diff α) (l : List α) (h : d.applicable l = true) :
    (d.apply l).isSome = true := by
  cases d <;> simp_all [Diff.apply, Diff.applicable]

/-- The documented change, arm by arm, as the effect on the length … -/
theorem c18_apply_length {α} (d : Diff α) (l l' : List α) (h : d.apply l = some l') :
    l'.length = match d with
      | .append vs => l.length + vs.length
      | .clear => 0
      | .pushFront _ => l.length + 1
      | .pushBack _ => l.length + 1
      | .popFront => l.length - 1
      | .popBack => l.length - 1
      | .insert _ _ => l.length + 1
      | .set _ _ => l.length
      | .remove _ => l.length - 1
      | .truncate n => min n l.length
      | .reset vs => vs.length := by
  cases d with
  | append vs => cases h; exact List.length_append
  | clear => cases h; rfl
  | pushFront v => cases h; rfl
  | pushBack v => cases h; exact List.length_append
  | popFront => cases h; exact List.length_tail
  | popBack => cases h; exact List.length_dropLast
  | insert i v => obtain ⟨hi, rfl⟩ := Diff.insert_apply_eq_some_iff.mp h; exact length_insert v hi
  | set i v => obtain ⟨_, rfl⟩ := Diff.set_apply_eq_some_iff.mp h; exact List.length_set
  | remove i => obtain ⟨hi, rfl⟩ := Diff.remove_apply_eq_some_iff.mp h; exact List.length_eraseIdx_of_lt hi
  | truncate n => cases h; exact List.length_take
  | reset vs => cases h; rfl

/-- … and on every position (`l'[j]?` in terms of `l`). -/
theorem c18_apply_get {α} (d : Diff α) (l l' : List α) (h : d.apply l = some l') (j : Nat) :
    l'[j]? = match d with
      | .append vs => if j < l.length then l[j]? else vs[j - l.length]?
      | .clear => none
      | .pushFront v => if j = 0 then some v else l[j - 1]?
      | .pushBack v => if j < l.length then l[j]? else if j = l.length then some v else none
      | .popFront => l[j + 1]?
      | .popBack => if j + 1 < l.length then l[j]? else none
      | .insert i v => if j < i then l[j]? else if j = i then some v else l[j - 1]?
      | .set i v => if j = i then some v else l[j]?
      | .remove i => if j < i then l[j]? else l[j + 1]?
      | .truncate n => if j < n then l[j]? else none
      | .reset vs => vs[j]? := by
  cases d with
  | append vs => cases h; exact List.getElem?_append
  | clear => cases h; rfl
  | pushFront v => cases h; exact List.getElem?_cons
  | pushBack v =>
    cases h; rw [List.getElem?_append, List.getElem?_singleton]
    -- core's singleton lookup tests `j - l.length = 0`: past `l`, `j = l.length`
    exact ite_congr rfl (fun _ => rfl) fun hj => ite_congr (propext (by omega)) (fun _ => rfl) fun _ => rfl
  | popFront => cases h; exact List.getElem?_tail
  | popBack => cases h; simp only [List.getElem?_dropLast, Nat.lt_sub_iff_add_lt]
  | insert i v =>
    obtain ⟨h1, rfl⟩ := Diff.insert_apply_eq_some_iff.mp h
    rw [List.getElem?_append, List.length_take, Nat.min_eq_left h1]
    refine ite_congr rfl (fun hj => List.getElem?_take_of_lt hj) fun hj => ?_
    obtain ⟨k, rfl⟩ := Nat.exists_eq_add_of_le (Nat.le_of_not_lt hj)
    rw [Nat.add_sub_cancel_left]
    cases k with
    | zero => exact (if_pos rfl).symm
    | succ k => exact List.getElem?_drop.trans (if_neg (by omega)).symm
  | set i v =>
    obtain ⟨h1, rfl⟩ := Diff.set_apply_eq_some_iff.mp h
    simp only [List.getElem?_set, h1, if_true, @eq_comm _ i j]
  | remove i => obtain ⟨_, rfl⟩ := Diff.remove_apply_eq_some_iff.mp h; exact List.getElem?_eraseIdx
  | truncate n => cases h; exact List.getElem?_take
  | reset vs => cases h; rfl

-- non-vacuity / sanity: a concrete non-trivial instance of each clause
example : (Diff.insert 1 7).apply [1, 2, 3] = some [1, 7, 2, 3] := by decide
example : ((Diff.insert 1 7).map (· + 1)).apply ([1, 2, 3].map (· + 1)) = some [2, 8, 3, 4] := by decide
example : (Diff.set 3 7).apply [1, 2, 3] = none := by decide
example : (Diff.truncate 5 : Diff Nat).apply [1, 2, 3] = some [1, 2, 3] := by decide

end EV
