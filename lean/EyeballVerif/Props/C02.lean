/-
  C02 — no lost wakeups: a pending subscriber is woken by the next update or close (operation granularity;
  the lock-level interleavings are treated in Props/C02Conc.lean).
-/
import EyeballVerif.Props.C01
namespace EV
open OWorld

/-- in every reachable world, a subscriber whose last poll answered `Pending` (and nothing notified since)
    is registered in the waker list — every one of them, not just one -/
theorem c02_parked_registered {α} (eqv : α → α → Bool) (hash : α → Nat) (dflt : α) (w : OWorld α)
    (h : OReach eqv hash dflt w) (i : Nat) (s : SubSt) (hs : w.subs[i]? = some s) (ha : s.alive = true)
    (hp : s.parked = true) : i ∈ w.st.wakers :=
  ((oreach_inv h).subs_ok i s hs ha).2 hp

/-- a `Pending` answer means there really was nothing to deliver: the observable is open and the subscriber
    has been shown the latest notifying update -/
theorem c02_pending_nothing_missed {α} (w : OWorld α) (hi : OInv w) (i : Nat) (s : SubSt)
    (hs : w.subs[i]? = some s) (ha : s.alive = true) (w' : OWorld α) (hp : w.poll i = some (w', .pending)) :
    w.st.version ≠ 0 ∧ s.fresh = false := by
  obtain ⟨w2, h2⟩ := c01_poll_spec w hi i s hs ha
  rw [h2] at hp
  by_cases hv : w.st.version = 0
  · simp [hv] at hp
  · refine ⟨hv, ?_⟩
    cases hf : s.fresh
    · rfl
    · simp [hv, hf] at hp

/-- every notifying update wakes *every* registered waker (the list is drained), and so does the close -/
theorem c02_notify_wakes_all {α} (s : ObsSt α) (v : α) (f : α → α) :
    (s.set v).2.2 = s.wakers ∧ (s.update f).2 = s.wakers ∧ (s.updateIf f true).2 = s.wakers ∧
    s.close.2 = s.wakers ∧ (s.set v).1.wakers = [] ∧ s.close.1.wakers = [] := by
  simp [ObsSt.set, ObsSt.bump, ObsSt.update, ObsSt.updateIf, ObsSt.close]

/-- hence: after a `Pending` poll, the next notifying write through any owner wakes that subscriber -/
theorem c02_next_write_wakes {α} (eqv : α → α → Bool) (hash : α → Nat) (dflt : α) (w : OWorld α)
    (h : OReach eqv hash dflt w) (i : Nat) (s : SubSt) (hs : w.subs[i]? = some s) (ha : s.alive = true)
    (hp : s.parked = true) (ho : Nat) (op : WOp α) (w' : OWorld α) (r : WRet α) (wk : List Nat)
    (hw : w.write eqv hash dflt ho op = some (w', r, wk)) (hnot : w'.st.version = w.st.version + 1) : i ∈ wk := by
  obtain ⟨-, v, ⟨-, rfl⟩ | ⟨rfl, -⟩⟩ := write_spec hw
  · exact c02_parked_registered eqv hash dflt w h i s hs ha hp
  · exact absurd hnot (by simp)

/-- … and so does the drop of the last owner -/
theorem c02_close_wakes {α} (eqv : α → α → Bool) (hash : α → Nat) (dflt : α) (w : OWorld α)
    (h : OReach eqv hash dflt w) (i : Nat) (s : SubSt) (hs : w.subs[i]? = some s) (ha : s.alive = true)
    (hp : s.parked = true) (ho : Nat) (w' : OWorld α) (wk : List Nat)
    (hd : w.dropOwner ho = some (w', wk)) (hclosed : w'.st.version = 0) : i ∈ wk := by
  have hreg := c02_parked_registered eqv hash dflt w h i s hs ha hp
  obtain ⟨hal, hd⟩ := guard_eq_some hd
  -- the unique owner and the last clone close and hand back the waker list; any other clone leaves the state open
  split at hd
  · cases hd; exact hreg
  split at hd <;> cases hd
  · exact hreg
  · exact absurd hclosed ((oreach_inv h).open_iff.mpr (ownerAlive_pos hal))

end EV
