/-
  C04 — concurrent use of a SharedObservable is linearizable (lock-level model; every schedule).

  Every call takes effect in one segment executed under the lock that excludes everything it conflicts with:
  a `set` at the segment in which it takes the write lock and replaces the value, a `get` / subscriber check at
  the segment in which it reads under the read lock. Linearizability itself is stated in Props/C04Lin.lean.
-/
import EyeballVerif.Lemmas.ConcInv
namespace EV

/-- **Guards exclude.** In every reachable state: while a writer is inside its critical section nobody holds
    the read lock and nobody else is a writer; while somebody holds the read lock there is no writer. -/
theorem c04_mutual_exclusion (s : CS) (h : CReach s) :
    (∀ t, s.writer = some t → s.readers = [] ∧ ∀ u, u < s.ths.length → (s.thAt u).pc.holdsWrite = true → u = t) ∧
    (s.readers ≠ [] → s.writer = none) ∧
    (∀ t u, s.metaHeld = some t → u < s.ths.length → (s.thAt u).pc.holdsMeta = true → u = t) := by
  have hi := creach_inv h
  refine ⟨?_, ?_, ?_⟩
  · intro t ht
    refine ⟨hi.excl (by simp [ht]), ?_⟩
    intro u hu hw
    have := (hi.writer_iff u).mpr ⟨hu, hw⟩
    rw [ht] at this; exact (Option.some.inj this).symm
  · intro hr
    obtain ⟨t, ht⟩ := List.exists_mem_of_ne_nil _ hr
    exact hi.no_writer_of_reader ht
  · intro t u ht hu hm
    have := (hi.meta_iff u).mpr ⟨hu, hm⟩
    rw [ht] at this; exact (Option.some.inj this).symm

theorem adv_value (s s' : CS) (t : Nat) (h : s.adv t = some s') : s'.value = (s.storeOf t).getD s.value :=
  (adv_seg s s' t h).2.value

/-- **Only a store changes the value**: a step of any thread either is the store segment of a writing call and
    leaves exactly the value that call writes (`set`/`set_if_not_eq`: its argument, `update`: the closure applied
    to the current value — no update is lost), or leaves the value as it is. -/
theorem c04_value_frame (s s' : CS) (t : Nat) (h : s.adv t = some s') :
    (∃ v, s.storeOf t = some v ∧ s'.value = v) ∨ (s.storeOf t = none ∧ s'.value = s.value) := by
  rw [adv_value s s' t h]
  cases s.storeOf t <;> simp

/-- what the store segment of a `set` / a successful `set_if_not_eq` remembers as the call's result: the value it
    replaced -/
theorem c04_store_records_prev (s s' : CS) (t : Nat) (th : Th) (hth : s.ths[t]? = some th) (hpc : th.pc = .start)
    (h : s.adv t = some s') :
    (∀ v, th.op = .set v → (s'.thAt t).pc = .writeBeforeNotify s.value) ∧
    (∀ v, th.op = .sne v → s.value ≠ v → (s'.thAt t).pc = .writeBeforeNotify s.value) ∧
    (∀ v, th.op = .sne v → s.value = v →
        s'.value = s.value ∧ s'.version = s.version ∧ s'.wakers = s.wakers ∧ (s'.thAt t).res = .optPrev none ∧
        (s'.thAt t).pc = .finished) := by
  have ht : t < s.ths.length := (thAt_of_getElem? hth).2
  refine ⟨fun v hop => ?_, fun v hop hne => ?_, fun v hop heq => ?_⟩
  all_goals
    simp only [CS.adv, hth, hop, hpc] at h
    split at h <;> cases h <;> simp_all [CS.thAt]

/-- the stores of a run, in order: (value replaced, value written) -/
def CS.runLog (s : CS) : List Nat → CS × List (Nat × Nat)
  | [] => (s, [])
  | t :: ts =>
    match s.adv t with
    | none => s.runLog ts
    | some s' =>
      let r := s'.runLog ts
      (r.1, if s.isStore t then (s.value, s'.value) :: r.2 else r.2)

def Chain : Nat → List (Nat × Nat) → Nat → Prop
  | a, [], b => a = b
  | a, (p, n) :: rest, b => p = a ∧ Chain n rest b

/-- **Set chain.** Along every run the stores are totally ordered, every `set` replaces (and returns) the
    value written by its immediate predecessor, and the final value is the last one written: the returned
    previous values plus the final value are exactly the initial value plus all values written. -/
theorem c04_set_chain (s : CS) (sched : List Nat) : Chain s.value (s.runLog sched).2 (s.runLog sched).1.value := by
  induction sched generalizing s with
  | nil => simp [CS.runLog, Chain]
  | cons t ts ih =>
    simp only [CS.runLog]
    cases h : s.adv t with
    | none => exact ih s
    | some s' =>
      simp only
      rcases c04_value_frame s s' t h with ⟨v, hs, _⟩ | ⟨hs, hv⟩
      · simp only [CS.isStore, hs, Option.isSome_some, if_true, Chain, true_and]; exact ih s'
      · simp only [CS.isStore, hs, Option.isSome_none, Bool.false_eq_true, if_false]; rw [← hv]; exact ih s'

/-- `runLog` and `run` reach the same state -/
theorem c04_runLog_state (s : CS) (sched : List Nat) : (s.runLog sched).1 = s.run sched := by
  induction sched generalizing s with
  | nil => rfl
  | cons t ts ih =>
    rw [CS.run_cons, CS.runLog]
    cases s.adv t with
    | none => exact ih s
    | some s' => exact ih s'

/-- a `get`, and the check of a subscriber poll, read the current value — i.e. the value of the latest store
    that precedes them in the run (by `c04_value_frame`) -/
theorem c04_reads_current (s s' : CS) (t : Nat) (th : Th) (hth : s.ths[t]? = some th) (h : s.adv t = some s') :
    (th.op = .get → th.pc = .start → (s'.thAt t).res = .value s.value) ∧
    (th.op = .poll → th.pc = .pollHoldingMeta → ∀ v, (s'.thAt t).pc = .pollAfterCheck (.ready v) → v = s.value) := by
  have ht : t < s.ths.length := (thAt_of_getElem? hth).2
  constructor
  · intro hop hpc
    simp only [CS.adv, hth, hop, hpc] at h
    split at h <;> cases h <;> simp_all [CS.thAt]
  · intro hop hpc v hv
    simp only [CS.adv, hth, hop, hpc] at h
    split at h <;> (try split at h) <;> cases h <;> simp_all [CS.thAt]

-- (one step: stated for `WInv s`, so that it applies along a run, not only to reachable states)
/-- a subscriber's observed version never goes backwards — `next_now` on an observable that has been closed
    (version 0) being the one exception: it records the closed state's version -/
theorem c04_observed_monotone (s s' : CS) (t u : Nat) (hi : WInv s) (h : s.adv t = some s') (hu : u < s.ths.length) :
    (s.thAt u).observed ≤ (s'.thAt u).observed ∨ (s.version = 0 ∧ t = u ∧ (s.thAt t).op = .nextNow) := by
  obtain ⟨_, g⟩ := adv_seg s s' t h
  by_cases hut : u = t
  · subst hut
    -- only the first alternative of `Seg.wake` moves `observed`: to the version, from below (ready poll) or by `next_now`
    rcases g.wake with ⟨-, -, -, -, e | ⟨e, hlt | hnn⟩⟩ | ⟨-, -, -, -, -, -, e⟩ | ⟨-, -, -, -, e⟩
    · exact .inl (Nat.le_of_eq e.symm)
    · exact .inl (by omega)
    · by_cases hv : s.version = 0
      · exact .inr ⟨hv, rfl, hnn⟩
      · exact .inl (e ▸ hi.obs_le u hu hv)
    · exact .inl (Nat.le_of_eq e.symm)
    · exact .inl (Nat.le_of_eq e.symm)
  · exact .inl (Nat.le_of_eq (g.frame hut (·.observed) fun _ => rfl).symm)

/-- `next_now` takes effect in one segment: it hands out the current value — the value of the latest store that
    precedes it in the run — and marks exactly the current version as observed, changing nothing else. -/
theorem c04_next_now_current (s s' : CS) (t : Nat) (th : Th) (hth : s.ths[t]? = some th) (hop : th.op = .nextNow)
    (hpc : th.pc = .start) (h : s.adv t = some s') :
    (s'.thAt t).res = .value s.value ∧ (s'.thAt t).observed = s.version ∧ (s'.thAt t).pc = .finished ∧
    s'.value = s.value ∧ s'.version = s.version ∧ s'.wakers = s.wakers ∧ s.writer = none := by
  have ht : t < s.ths.length := (thAt_of_getElem? hth).2
  simp only [CS.adv, hth, hop, hpc] at h
  split at h <;> cases h <;> simp_all [CS.thAt]

-- non-vacuity: two writers and a reader
example :
    let r := (CS.init true 1 2 1 [(.set 5, false), (.set 6, false), (.get, false)]).runLog [1, 0, 1, 1, 0, 2, 0, 0, 2]
    r.2 = [(1, 6), (6, 5)] ∧ r.1.value = 5 ∧ (r.1.thAt 2).res = .value 5 ∧ (r.1.thAt 0).res = .prev 6 := by decide

-- a `set_if_not_eq` that finds its value already stored, one that does not, an `update` and a `next_now`
example :
    let r := (CS.init true 1 3 1 [(.sne 1, false), (.sne 4, false), (.update 10, false), (.nextNow, false)]).runLog
               [0, 1, 3, 1, 1, 2, 2, 3]
    r.2 = [(1, 4), (4, 14)] ∧ r.1.value = 14 ∧ (r.1.thAt 0).res = .optPrev none ∧ (r.1.thAt 1).res = .optPrev (some 1)
      ∧ (r.1.thAt 3).res = .value 14 ∧ (r.1.thAt 3).observed = 3 ∧ r.1.version = 3 := by decide

end EV
