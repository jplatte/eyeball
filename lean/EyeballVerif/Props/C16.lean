/-
  C16 — the async-lock flavour obeys the same observable semantics as the default flavour.

  The async flavour is checked against the *same* operation-level model (`OWorld`) as the default one, so the
  theorems of C01–C03 are the statement of its value / notification / wakeup / end-of-stream rules. What is
  specific to it — calls are futures that may have to wait for `tokio::sync::RwLock` — is the semaphore model
  of Model/ObsAsync.lean; the theorems here say when a future completes at once, who is woken by a release,
  and what a subscriber answers once it gets the lock.
-/
import EyeballVerif.Lemmas.AsyncBasics
import EyeballVerif.Props.C01
namespace EV

/-- **Guard-free calls never wait.** With the lock free, any request of at most all permits is granted on the
    first poll and nothing is queued. -/
theorem c16_free_acquires (s : ASem) (o : AOwner) (n : Nat) (hf : s.free) (hn : n ≤ s.max) :
    (s.acquire o n).2 = true ∧ (s.acquire o n).1.queue = [] ∧ (s.acquire o n).1.avail = s.max - n := by
  rw [s.acquire_of_le o (hf.1 ▸ hn)]
  exact ⟨rfl, hf.2, congrArg (· - n) hf.1⟩

/-- releasing everything that was taken from a free lock makes it free again -/
theorem c16_release_restores (s : ASem) (n : Nat) (hq : s.queue = []) (ha : s.avail + n = s.max) :
    (s.release n).1.free ∧ (s.release n).2 = [] := by
  rw [s.release_nil n hq]
  exact ⟨⟨ha, hq⟩, rfl⟩

/-- **Same answer as the default flavour when nothing is held**: a write call on a free lock completes on its
    first poll with exactly the default flavour's state change and return value, and leaves the lock free. -/
theorem c16_write_same_as_sync (eqv : Nat → Nat → Bool) (hash : Nat → Nat) (a : AWorld) (h : Nat) (op : OWorld.WOp Nat)
    (hf : a.sem.free) (w' : OWorld Nat) (r : OWorld.WRet Nat) (wk : List Nat)
    (hw : a.w.write eqv hash 0 h op = some (w', r, wk)) :
    let st := a.startFut (.write h op)
    st.2.2 = true ∧
    ∃ a' rs, st.1.finishFut eqv hash st.2.1 = some (a', rs, [], wk) ∧ a'.w = w' ∧ a'.sem.free :=
  have ⟨hs, hfin⟩ := AWorld.write_free hf hw
  ⟨hs, _, _, hfin, rfl, hf⟩

/-- **A waiter is woken when the lock is released**: if the permits handed back cover what the first waiter
    still misses, it is woken and leaves the queue, and the rest goes on to the next waiter, in order … -/
theorem c16_release_wakes_head (w : AWaiter) (ws : List AWaiter) (n : Nat) (hn : 0 < n) (hc : w.remaining ≤ n) :
    (releaseLoop (w :: ws) n).2.2 = w.owner :: (releaseLoop ws (n - w.remaining)).2.2 ∧
    (releaseLoop (w :: ws) n).1 = (releaseLoop ws (n - w.remaining)).1 := by
  simp only [releaseLoop, Nat.ne_of_gt hn, hc, if_true, if_false, and_self]

/-- … otherwise it keeps waiting for the remainder and nobody behind it is served (FIFO) -/
theorem c16_release_partial (w : AWaiter) (ws : List AWaiter) (n : Nat) (hc : n < w.remaining) :
    (releaseLoop (w :: ws) n).2.2 = [] ∧ (releaseLoop (w :: ws) n).2.1 = 0 ∧
    (releaseLoop (w :: ws) n).1 = { w with remaining := w.remaining - n } :: ws := by
  unfold releaseLoop
  split
  · subst n; exact ⟨rfl, rfl, rfl⟩
  · rw [if_neg (Nat.not_le.2 hc)]; exact ⟨rfl, rfl, rfl⟩

/-- fairness invariant of the semaphore: while somebody waits nothing is available (so nobody can overtake),
    and every waiter still misses something -/
def ASem.fair (s : ASem) : Prop := (s.queue ≠ [] → s.avail = 0) ∧ ∀ w ∈ s.queue, 0 < w.remaining

theorem c16_acquire_fair (s : ASem) (o : AOwner) (n : Nat) (h : s.fair) : (s.acquire o n).1.fair :=
  s.acquire_keeps o n Nat.sub_pos_of_lt h.1 h.2

theorem c16_release_fair (s : ASem) (n : Nat) (h : s.fair) : (s.release n).1.fair :=
  ⟨s.release_fifo n h.1, releaseLoop_forall (fun _ _ hr _ => Nat.sub_pos_of_lt hr) _ n h.2⟩

/-- **A subscriber polled while a write guard is held becomes ready after the guard is dropped**: once its
    reusable lock future has been granted the lock (it was woken), its next poll is exactly the default
    flavour's poll of the current state, and it gives the permit back. -/
theorem c16_granted_sub_polls_like_sync (a : AWorld) (i : Nat) (hal : a.w.subAlive i = true)
    (hg : a.subLock.getD i .idle = .granted) (w' : OWorld Nat) (r : PollRes Nat) (hp : a.w.poll i = some (w', r)) :
    ∃ a' wk, a.pollSub i = some (a', r, wk) ∧ a'.w = w' := by
  unfold AWorld.pollSub
  simp only [hal, Bool.not_true, Bool.false_eq_true, if_false, hg, OWorld.pollW_self, hp]
  exact ⟨_, _, rfl, grant_w ..⟩

/-- **`next_ref()` hands out the current value and marks it observed.** When the second lock acquisition of a
    `next_ref()` future of subscriber `i` has been granted, its completion is exactly the default flavour's
    `next_ref_now`: the guard shows the value current *at that moment* (whatever was written between the update
    check and the acquisition), that version is the observed one afterwards, and the guard holds one read permit. -/
theorem c16_next_ref_completes_like_next_now (eqv : Nat → Nat → Bool) (hash : Nat → Nat) (a : AWorld) (k i : Nat) (f : AFut)
    (hf : a.futs[k]? = some f) (hk : f.kind = .nextRef i) (hst : f.st = .granted)
    (w' : OWorld Nat) (v : Nat) (hn : a.w.nextNow i = some (w', v)) :
    ∃ a' rs, a.finishFut eqv hash k = some (a', rs, [], []) ∧ a'.w = w' ∧ a'.guards = a.guards ++ [1] ∧ a'.sem = a.sem ∧
      v = a.w.st.value ∧ ∃ s', w'.subs[i]? = some s' ∧ s'.fresh = false := by
  have hmarks := c01_next_now_marks a.w w' i v hn
  simp only [AWorld.finishFut, hf, hst, ne_eq, not_true_eq_false, if_false, hk, hn]
  exact ⟨_, _, rfl, rfl, rfl, rfl, hmarks.1, hmarks.2.2⟩

/-- a `next_ref()` future whose update check finds nothing new stays pending and leaves the subscriber parked
    with the *future's* waker: the next notifying write wakes that task -/
theorem c16_next_ref_pending_registers (eqv : Nat → Nat → Bool) (hash : Nat → Nat) (a a1 : AWorld) (k i : Nat) (f : AFut)
    (lw : List AOwner) (hf : a.futs[k]? = some f) (hk : f.kind = .nextRef i) (hst : f.st = .idle)
    (hp : a.pollSub i (futWaker k) = some (a1, .pending, lw)) :
    a.pollNextRef eqv hash k = some (a1, none, lw) := by
  simp only [AWorld.pollNextRef, hf, hk, hst, hp]

theorem AWorld.finishFut_nextRef (eqv : Nat → Nat → Bool) (hash : Nat → Nat) (a : AWorld) (k i : Nat) (st : FSt)
    (hf : a.futs[k]? = some ⟨.nextRef i, st⟩) (a' : AWorld) (rs : String) (lw : List AOwner) (wk : List Nat)
    (h : a.finishFut eqv hash k = some (a', rs, lw, wk)) : a'.subLock = a.subLock ∧ lw = [] := by
  simp only [AWorld.finishFut, hf] at h
  split at h
  · cases h
  · split at h
    · cases h
    · cases h; exact ⟨rfl, rfl⟩

/-- **`next_ref_now()` leaves the subscriber's own lock request alone**: the call acquires the lock through a request of
    its own (`startFut (.nextRef i)` is its lock acquisition, `finishFut` its completion under the lock); the state of the
    subscriber's stored `get_lock` future — in particular a registration made by an earlier stream poll, which a later release
    of the lock has to wake — is what it was. -/
theorem c16_next_ref_now_keeps_registration (eqv : Nat → Nat → Bool) (hash : Nat → Nat) (a : AWorld) (i : Nat) :
    (a.startFut (.nextRef i)).1.subLock = a.subLock ∧
    ∀ a' rs lw wk, (a.startFut (.nextRef i)).1.finishFut eqv hash (a.startFut (.nextRef i)).2.1 = some (a', rs, lw, wk) →
      a'.subLock = a.subLock ∧ lw = [] :=
  ⟨rfl, AWorld.finishFut_nextRef eqv hash _ _ i _ List.getElem?_concat_length⟩

/-- permits a queued waiter has already collected -/
def collected (q : List AWaiter) : Nat := (q.map fun w => w.total - w.remaining).sum

/-- total size of the requests completed by a release (their owners now hold that many permits) -/
def releaseGranted : List AWaiter → Nat → Nat
  | [], _ => 0
  | w :: ws, rem =>
    if rem = 0 then 0
    else if w.remaining ≤ rem then w.total + releaseGranted ws (rem - w.remaining)
    else 0

/-- well-formed queue: every waiter still misses something, never more than it asked for -/
def QueueOK (q : List AWaiter) : Prop := ∀ w ∈ q, 0 < w.remaining ∧ w.remaining ≤ w.total

/-- **permit conservation**: free permits + permits parked with queued waiters + permits held by completed acquirers
    (`out`) = `max`; and free permits exist only while nobody is queued -/
def SemInv (s : ASem) (out : Nat) : Prop :=
  s.avail + collected s.queue + out = s.max ∧ QueueOK s.queue ∧ (s.queue ≠ [] → s.avail = 0)

theorem collected_cons (w : AWaiter) (ws : List AWaiter) :
    collected (w :: ws) = w.total - w.remaining + collected ws := rfl

theorem collected_concat (q : List AWaiter) (w : AWaiter) :
    collected (q ++ [w]) = collected q + (w.total - w.remaining) := by
  simp [collected]

theorem seminv_acquire (s : ASem) (o : AOwner) (n out : Nat) (hn : 0 < n) (hi : SemInv s out) :
    SemInv (s.acquire o n).1 (if (s.acquire o n).2 then out + n else out) := by
  have hk := s.acquire_keeps o n (fun h => ⟨Nat.sub_pos_of_lt h, Nat.sub_le ..⟩) hi.2.2 hi.2.1
  refine ⟨?_, hk.2, hk.1⟩
  have h1 := hi.1
  rcases Nat.lt_or_ge s.avail n with h | h
  · simp only [s.acquire_of_lt o h, collected_concat, Bool.false_eq_true, if_false]
    omega
  · simp only [s.acquire_of_le o h, if_true]
    omega

theorem releaseLoop_sum (q : List AWaiter) (n : Nat) (hq : ∀ w ∈ q, w.remaining ≤ w.total) :
    (releaseLoop q n).2.1 + collected (releaseLoop q n).1 + releaseGranted q n = n + collected q := by
  fun_induction releaseLoop q n with
  | case1 => rfl
  | case2 => simp only [releaseGranted, if_true]; omega
  | case3 w ws rem h0 h r ih =>
    have := ih (List.forall_mem_cons.1 hq).2
    have := (List.forall_mem_cons.1 hq).1
    simp only [releaseGranted, h0, h, if_true, if_false, collected_cons, r]
    omega
  | case4 w ws rem h0 h =>
    have := (List.forall_mem_cons.1 hq).1
    simp only [releaseGranted, h0, h, if_false, collected_cons]
    omega

theorem releaseLoop_conserves (q : List AWaiter) : ∀ (rem : Nat), QueueOK q →
    (releaseLoop q rem).2.1 + collected (releaseLoop q rem).1 + releaseGranted q rem = rem + collected q ∧
    QueueOK (releaseLoop q rem).1 ∧ ((releaseLoop q rem).1 ≠ [] → (releaseLoop q rem).2.1 = 0) :=
  fun rem hq => ⟨releaseLoop_sum q rem fun w hw => (hq w hw).2,
    releaseLoop_forall (fun _ _ hr h => ⟨Nat.sub_pos_of_lt hr, Nat.le_trans (Nat.sub_le ..) h.2⟩) q rem hq,
    releaseLoop_fifo q rem⟩

/-- releasing `n` permits that were held: nothing is lost, what completes a request is held by its owner afterwards -/
theorem seminv_release (s : ASem) (n out : Nat) (hn : n ≤ out) (hi : SemInv s out) :
    SemInv (s.release n).1 (out - n + releaseGranted s.queue n) := by
  obtain ⟨g1, g2, _⟩ := releaseLoop_conserves s.queue n hi.2.1
  refine ⟨?_, g2, s.release_fifo n hi.2.2⟩
  have h1 := hi.1
  show s.avail + (releaseLoop s.queue n).2.1 + collected (releaseLoop s.queue n).1 + _ = s.max
  omega

/-- **mutual exclusion from conservation**: while a writer holds all `max` permits, no permit is free and nobody else
    holds or has collected any -/
theorem c16_writer_excludes (s : ASem) (others : Nat) (hi : SemInv s (s.max + others)) :
    s.avail = 0 ∧ collected s.queue = 0 ∧ others = 0 := by
  have := hi.1; omega

/-- while `r` readers hold a permit each, a write request cannot be satisfied at once unless `r = 0` -/
theorem c16_readers_block_writer (s : ASem) (r : Nat) (hr : 0 < r) (hi : SemInv s r) (o : AOwner) : (s.acquire o s.max).2 = false := by
  rw [s.acquire_of_lt o (by have := hi.1; omega)]

end EV
