/-
  C10 — Filter and FilterMap present exactly the matching (mapped) items, in order.
-/
import EyeballVerif.Lemmas.FilterArms
namespace EV
open Filter

/-- **Filter / FilterMap, every arm.** If the bookkeeping is right for the source before the diff
    (`FInv`), then it is right for the source after it, and the emitted diff (if any), replayed strictly on
    the old filtered view, gives the new filtered view — for every partial mapping `f`, every source and every
    diff valid on it. -/
theorem filter_handle {α β} (f : α → Option β) (d : Diff α) (src src' : List α) (st : FilterSt)
    (hv : d.validOn src = true) (ha : d.apply src = some src') (hi : FInv f st src) :
    FInv f (Filter.handle f d st).2 src' ∧
    applyAll (Filter.handle f d st).1.toList (src.filterMap f) = some (src'.filterMap f) := by
  cases d with
  | append vs => cases ha; exact filter_append f vs src st hi
  | clear => cases ha; exact filter_clear f src st
  | pushFront v => cases ha; exact filter_pushFront f v src st hi
  | pushBack v => cases ha; exact filter_pushBack f v src st hi
  | popFront =>
    cases ha
    cases src with
    | nil => cases hv
    | cons a t => exact filter_popFront f a t st hi
  | popBack =>
    cases ha
    rcases List.eq_nil_or_concat src with rfl | ⟨t, a, rfl⟩
    · cases hv
    · rw [List.concat_eq_append] at hi ⊢; rw [List.dropLast_concat]; exact filter_popBack f a t st hi
  | insert i v =>
    obtain ⟨hv, rfl⟩ := Diff.insert_apply_eq_some_iff.mp ha
    obtain ⟨S1, S2, rfl, rfl⟩ := exists_split_le src i hv
    -- `simpa` only brings what `apply` wrote, `(S1 ++ S2).take S1.length ++ v :: …`, to the split form of the arm lemma
    simpa [FilterArmOK] using filter_insert f v S1 S2 st hi
  | set i v =>
    obtain ⟨hv, rfl⟩ := Diff.set_apply_eq_some_iff.mp ha
    obtain ⟨S1, a, S2, rfl, rfl⟩ := exists_split src i hv
    simpa [FilterArmOK] using filter_set f v a S1 S2 st hi
  | remove i =>
    obtain ⟨hv, rfl⟩ := Diff.remove_apply_eq_some_iff.mp ha
    obtain ⟨S1, a, S2, rfl, rfl⟩ := exists_split src i hv
    simpa [FilterArmOK, eraseIdx_mid _ _ _ _ rfl] using filter_remove f a S1 S2 st hi
  | truncate n =>
    cases ha
    obtain ⟨S1, S2, rfl, rfl⟩ := exists_split_le src n (Nat.le_of_lt (of_decide_eq_true hv))
    simpa [FilterArmOK] using filter_truncate f S1 S2 st hi
  | reset vs => cases ha; exact filter_reset f _ src st

/-- the constructors establish the invariant and hand out the filtered view -/
theorem filter_init {α β} (f : α → Option β) (vals : List α) :
    (Filter.init f vals).1 = vals.filterMap f ∧ FInv f (Filter.init f vals).2 vals :=
  ⟨rfl, rfl, rfl⟩

-- non-vacuity: a concrete state meeting `FInv`, a Reset whose items all fail (the repaired defect D3)
example :
    let f : Nat → Option Nat := fun x => if x % 2 = 0 then some x else none
    let st : FilterSt := (Filter.init f [2, 3, 4]).2
    st = { idx := [0, 2], olen := 3 } ∧
    (Filter.handle f (.reset [1, 3]) st).1 = some (.reset []) ∧
    (Filter.handle f (.set 1 6) st).1 = some (.insert 1 6) := by decide

end EV
