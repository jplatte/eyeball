/-
  C16, history level — "for every history of calls, the results match those of the default flavour given the same
  calls". A guard-free history is a sequence of calls each of which is awaited to completion before the next one is
  issued (no read / write guard is kept across calls, no future is left pending). For every such history the async
  flavour — every call a future that first has to get `tokio::sync::RwLock` — makes exactly the default flavour's
  state changes and returns exactly its results, never waits, and leaves the lock free after every call
  (`c16_guard_free_run`, by induction over the history from the one-call lemmas `gcall_async_eq_sync`).
  Histories in which guards are held across calls are the subject of the semaphore theorems of Props/C16.lean.
-/
import EyeballVerif.Props.C16
namespace EV

/-- a call awaited to completion -/
inductive GCall where
  | write (h : Nat) (op : OWorld.WOp Nat)     -- set / set_if_not_eq / set_if_hash_not_eq / take / update / update_if through owner `h`
  | poll (i : Nat)                            -- subscriber `i` polled once (as a stream / by `next()`)
  | nextNow (i : Nat)                         -- `next_now().await`

inductive GRes where
  | wr (r : OWorld.WRet Nat) (woken : List Nat)
  | polled (r : PollRes Nat)
  | value (v : Nat)
  | refused                                    -- the call is not possible (dead handle): the world is unchanged

-- (`poll` refuses a dead subscriber itself; the test is written out to match `pollSub`, which makes it first)
/-- the default flavour: the call is one step of the operation-level model -/
def OWorld.gcall (eqv : Nat → Nat → Bool) (hash : Nat → Nat) (w : OWorld Nat) : GCall → OWorld Nat × GRes
  | .write h op => match w.write eqv hash 0 h op with | some (w', r, wk) => (w', .wr r wk) | none => (w, .refused)
  | .poll i => if w.subAlive i then (match w.poll i with | some (w', r) => (w', .polled r) | none => (w, .refused)) else (w, .refused)
  | .nextNow i => match w.nextNow i with | some (w', v) => (w', .value v) | none => (w, .refused)

-- (the `String`: the result text the driver prints; the run theorem ignores it)
/-- the async flavour: the call's future is created, polled (first poll: lock acquisition), and — if the lock was
    granted at once — polled to completion. `none` in the result = the future would have to wait. -/
def AWorld.gcall (eqv : Nat → Nat → Bool) (hash : Nat → Nat) (a : AWorld) : GCall → AWorld × Option (GRes × String)
  | .write h op =>
    match a.w.write eqv hash 0 h op with
    | none => (a, some (.refused, ""))       -- the driver refuses calls through dead handles before any future exists
    | some _ =>
      let st := a.startFut (.write h op)
      if st.2.2 then
        match st.1.finishFut eqv hash st.2.1 with
        | some (a', rs, _, wk) =>
          (a', some ((match a.w.write eqv hash 0 h op with | some (_, r, _) => .wr r wk | none => .refused), rs))
        | none => (st.1, none)
      else (st.1, none)
  | .poll i =>
    match a.pollSub i with
    | some (a', r, _) => (a', some (.polled r, ""))
    | none => (a, some (.refused, ""))
  | .nextNow i =>
    match a.w.nextNow i with
    | none => (a, some (.refused, ""))
    | some _ =>
      let st := a.startFut (.nextNow i)
      if st.2.2 then
        match st.1.finishFut eqv hash st.2.1 with
        | some (a', rs, _, _) => (a', some ((match a.w.nextNow i with | some (_, v) => .value v | none => .refused), rs))
        | none => (st.1, none)
      else (st.1, none)

/-- nothing is held, nobody waits, no subscriber's lock future is in flight -/
def AWorld.Quiet (a : AWorld) : Prop := a.sem.free ∧ 0 < a.sem.max ∧ ∀ i, a.subLock.getD i .idle = .idle

/-- on a quiet lock the lock future takes a permit and gives it back: the default flavour's poll remains -/
theorem AWorld.pollSub_quiet (a : AWorld) (i : Nat) (hq : a.Quiet) :
    a.pollSub i = if a.w.subAlive i then
      (a.w.poll i).map fun p => ({ a with w := p.1, subLock := lset a.subLock i .idle }, p.2, []) else none := by
  obtain ⟨⟨hfull, hnoq⟩, hmax, hidle⟩ := hq
  have hle : 1 ≤ a.sem.avail := by omega
  cases hal : a.w.subAlive i with
  | false => simp only [AWorld.pollSub, hal, Bool.not_false, if_true, Bool.false_eq_true, if_false]
  | true =>
    simp only [AWorld.pollSub, hal, Bool.not_true, Bool.false_eq_true, if_false, hidle i, a.sem.acquire_of_le _ hle, if_true,
      OWorld.pollW_self]
    cases a.w.poll i with
    | none => rfl
    | some p =>
      simp (disch := exact hnoq) only [AWorld.releaseN_nil, Nat.sub_add_cancel hle]
      rfl

/-- **One call on a quiet lock**: the async flavour completes it on the spot with the default flavour's state change
    and result, and the lock is quiet again. -/
theorem gcall_async_eq_sync (eqv : Nat → Nat → Bool) (hash : Nat → Nat) (a : AWorld) (c : GCall) (hq : a.Quiet) :
    ∃ res txt, (a.gcall eqv hash c).2 = some (res, txt) ∧ (a.gcall eqv hash c).1.w = (a.w.gcall eqv hash c).1 ∧
      res = (a.w.gcall eqv hash c).2 ∧ (a.gcall eqv hash c).1.Quiet ∧
      (∀ h op r wk, c = .write h op → res = .wr r wk → txt = wretStr r) := by
  cases c with
  | write h op =>
    simp only [AWorld.gcall, OWorld.gcall]
    cases hw : a.w.write eqv hash 0 h op with
    | none => exact ⟨_, _, rfl, rfl, rfl, hq, fun _ _ _ _ _ e => nomatch e⟩
    | some p =>
      obtain ⟨hs, hfin⟩ := AWorld.write_free hq.1 hw
      simp only [hs, if_true, hfin]
      exact ⟨_, _, rfl, trivial, rfl, hq, fun _ _ _ _ _ e => by cases e; rfl⟩
  | poll i =>
    simp only [AWorld.gcall, OWorld.gcall, a.pollSub_quiet i hq]
    cases a.w.subAlive i with
    | false => exact ⟨_, _, rfl, rfl, rfl, hq, fun _ _ _ _ e => nomatch e⟩
    | true =>
      cases a.w.poll i with
      | none => exact ⟨_, _, rfl, rfl, rfl, hq, fun _ _ _ _ e => nomatch e⟩
      | some p =>
        exact ⟨_, _, rfl, rfl, rfl,
          ⟨hq.1, hq.2.1, fun j => (lset_getD ..).trans (ite_eq_left_iff.2 fun _ => hq.2.2 j)⟩,
          fun _ _ _ _ e => nomatch e⟩
  | nextNow i =>
    simp only [AWorld.gcall, OWorld.gcall]
    cases hn : a.w.nextNow i with
    | none => exact ⟨_, _, rfl, rfl, rfl, hq, fun _ _ _ _ e => nomatch e⟩
    | some p =>
      obtain ⟨hs, hfin⟩ := AWorld.nextNow_free (eqv := eqv) (hash := hash) hq.1 hq.2.1 hn
      simp only [hs, if_true, hfin]
      exact ⟨_, _, rfl, trivial, rfl, hq, fun _ _ _ _ e => nomatch e⟩

/-- run a history on the async flavour: the results, `none` as soon as a call would have to wait -/
def AWorld.grun (eqv : Nat → Nat → Bool) (hash : Nat → Nat) : AWorld → List GCall → AWorld × Option (List GRes)
  | a, [] => (a, some [])
  | a, c :: cs =>
    match a.gcall eqv hash c with
    | (a', some (r, _)) => (match AWorld.grun eqv hash a' cs with | (a'', some rs) => (a'', some (r :: rs)) | (a'', none) => (a'', none))
    | (a', none) => (a', none)

def OWorld.grun (eqv : Nat → Nat → Bool) (hash : Nat → Nat) : OWorld Nat → List GCall → OWorld Nat × List GRes
  | w, [] => (w, [])
  | w, c :: cs => let (w', r) := w.gcall eqv hash c; let (w'', rs) := OWorld.grun eqv hash w' cs; (w'', r :: rs)

/-- **C16, every guard-free history**: the async flavour never waits, returns the default flavour's results call by
    call (values, previous values, who is woken, `Ready` / `Pending` / end of stream) and ends in the default
    flavour's state, with the lock free. -/
theorem c16_guard_free_run (eqv : Nat → Nat → Bool) (hash : Nat → Nat) (cs : List GCall) :
    ∀ (a : AWorld), a.Quiet →
      (a.grun eqv hash cs).2 = some (a.w.grun eqv hash cs).2 ∧ (a.grun eqv hash cs).1.w = (a.w.grun eqv hash cs).1 ∧
      (a.grun eqv hash cs).1.Quiet := by
  induction cs with
  | nil => exact fun a hq => ⟨rfl, rfl, hq⟩
  | cons c cs ih =>
    intro a hq
    obtain ⟨_, txt, hres, hw, rfl, hq', _⟩ := gcall_async_eq_sync eqv hash a c hq
    obtain ⟨ihres, ihw, ihq⟩ := ih _ hq'
    rw [hw] at ihres ihw
    rw [AWorld.grun, show a.gcall eqv hash c = (_, some _) from Prod.ext rfl hres]
    dsimp only
    rw [show AWorld.grun eqv hash _ cs = (_, some _) from Prod.ext rfl ihres]
    exact ⟨rfl, ihw, ihq⟩

/-- the initial world of every async observable is quiet -/
theorem quiet_init (w : OWorld Nat) : (AWorld.init w).Quiet :=
  ⟨⟨rfl, rfl⟩, by simp [AWorld.init], by intro i; simp [AWorld.init]⟩

/-- a shared observable with one subscriber -/
def c16Witness : OWorld Nat :=
  match (OWorld.newShared 1).subscribe 0 false with
  | some (w, _) => w
  | none => OWorld.newShared 1

/-- non-vacuity: a history with a Pending poll, a write that wakes the subscriber, a Ready poll, `next_now` and a final
    Pending poll runs to completion on the async flavour (5 results) -/
example : ((AWorld.init c16Witness).grun (· == ·) id
    [.poll 0, .write 0 (.set 5), .poll 0, .nextNow 0, .poll 0]).2.map (·.length) = some 5 := by decide

example : ((c16Witness.grun (· == ·) id [.poll 0, .write 0 (.set 5), .poll 0]).2.map fun r =>
    match r with | .polled .pending => 0 | .polled (.ready v) => v | .wr _ wk => 100 + wk.length | _ => 999) = [0, 101, 5] := by decide

end EV
