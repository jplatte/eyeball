/-
  C07 — transactions are atomic: invisible until commit, all-or-nothing afterwards.
-/
import EyeballVerif.Lemmas.ApplyAll
import EyeballVerif.Lemmas.ListExtra
import EyeballVerif.Lemmas.Traversal
import EyeballVerif.Props.C05
import EyeballVerif.Lemmas.Txn
namespace EV

-- the arms `txnOp` / `txnRollback` / `txnForEach` of `VEv`, as a type of their own
/-- what can happen inside an open transaction -/
inductive TEv (α : Type) where
  | op (o : VOp α)            -- any mutator (a panicking one leaves the transaction as it was)
  | rollback
  | forEach (decs : List (Dec α))

def OV.txnEv {α} (s : OV α) : TEv α → OV α
  | .op o => match s.txnOp o with | some (s', _) => s' | none => s
  | .rollback => s.txnRollback
  | .forEach decs => (s.txnForEach decs).1

theorem txnForEach_foldl {α} (s : OV α) (decs : List (Dec α)) :
    ∃ ops : List (VOp α), (s.txnForEach decs).1 = ops.foldl (fun u o => u.txnEv (.op o)) s := by
  -- the let-bound `step` of `OV.txnForEach` is `fun st o => st.txnEv (.op o)`
  have step : ∀ (st : OV α) (o : VOp α), (∃ ops : List (VOp α), st = ops.foldl (fun u o => u.txnEv (.op o)) s) →
      ∃ ops : List (VOp α), st.txnEv (.op o) = ops.foldl (fun u o => u.txnEv (.op o)) s := by
    rintro st o ⟨ops, hops⟩
    exact ⟨ops ++ [o], by rw [List.foldl_append, ← hops]; rfl⟩
  exact forEachLoop_preserves (P := fun st : OV α => ∃ ops : List (VOp α), st = ops.foldl (fun u o => u.txnEv (.op o)) s) _
    (fun st i v => st.txnEv (.op (.set i v))) (fun st i => st.txnEv (.op (.remove i)))
    (fun st i v h => step st (.set i v) h) (fun st i h => step st (.remove i) h) _ _ _ _ _ ⟨[], rfl⟩

theorem txnEv_ind {α} {P : OV α → Prop} (op : ∀ u u' o r, u.txnOp o = some (u', r) → P u → P u')
    (rollback : ∀ u, P u → P u.txnRollback) (u : OV α) (e : TEv α) (hu : P u) : P (u.txnEv e) := by
  have call : ∀ (u : OV α) (o : VOp α), P u → P (u.txnEv (.op o)) := by
    intro u o hu
    simp only [OV.txnEv]
    cases h : u.txnOp o with
    | none => exact hu
    | some p => exact op u p.1 o p.2 h hu
  cases e with
  | op o => exact call u o hu
  | rollback => exact rollback u hu
  | forEach decs =>
    obtain ⟨ops, ho⟩ := txnForEach_foldl u decs
    simp only [OV.txnEv, ho]; exact foldl_preserves P _ call ops u hu

/-- **Abandoning is invisible.** Whatever was done through the transaction (any mutators incl. `clear`,
    entry traversals, rollbacks, panicking calls), dropping it leaves the `ObservableVector` — contents,
    channel log (what every subscriber will ever receive), receivers — exactly as before it was opened. -/
theorem c07_abandon {α} (s : OV α) (hs : s.txn = none) (evs : List (TEv α)) :
    (evs.foldl OV.txnEv s.txnBegin).txnDrop = s := by
  have h := foldl_preserves (fun u : OV α => u.outside = s.outside) _
    (txnEv_ind (fun u u' o r h hu => (txnOp_outside u u' o r h).trans hu)
      (fun u hu => by unfold OV.txnRollback; cases u.txn <;> exact hu)) evs s.txnBegin rfl
  generalize evs.foldl OV.txnEv s.txnBegin = u at h
  -- agree outside the transaction, and have none: equal, field by field
  cases s; cases u
  simp [OV.outside, OV.txnDrop] at h hs ⊢
  simp [h, hs]

/-- transaction invariant: while somebody listens, the recorded batch replayed on the vector's
    (unchanged) contents yields the working copy -/
def TxnInv {α} (s : OV α) : Prop :=
  ∀ t, s.txn = some t → s.rxCount ≠ 0 → applyAll t.batch s.vals = some t.working

theorem c07_inv_begin {α} (s : OV α) : TxnInv s.txnBegin := by
  intro t ht _; simp [OV.txnBegin] at ht; subst ht; simp [OV.txnBegin]

theorem c07_inv_rollback {α} (s : OV α) : TxnInv s.txnRollback := by
  intro t ht _
  unfold OV.txnRollback at ht
  cases h : s.txn with
  | none => simp [h] at ht
  | some t0 => simp [h] at ht; subst ht; simp [OV.txnRollback, h]

theorem c07_inv_op {α} (s s' : OV α) (o : VOp α) (r : Ret α) (hi : TxnInv s)
    (h : s.txnOp o = some (s', r)) : TxnInv s' := by
  obtain ⟨t, t', ht, rfl, hc⟩ := txnOp_spec s s' o r h
  intro t'' ht'' hrx
  cases ht''
  -- said of `s`, for `if_pos` to find the `if s.rxCount ≠ 0` of `txnOp_spec`
  have hrx' : s.rxCount ≠ 0 := hrx
  rcases hc with ⟨hw, hb⟩ | ⟨res, he, hw, hb⟩
  · rw [hw, hb, if_pos hrx']; rfl
  · show applyAll t'.batch s.vals = some t'.working
    rw [hw, hb, if_pos hrx', applyAll_append, hi t ht hrx']
    exact (c05_exec_faithful o t.working res he).1

/-- `commit`: the vector's contents become the working contents; an empty batch publishes nothing;
    otherwise exactly one message is published, carrying the whole batch and the new contents. -/
theorem c07_commit {α} (s : OV α) (t : Txn α) (ht : s.txn = some t) :
    s.txnCommit.1.vals = t.working ∧ s.txnCommit.1.txn = none ∧
    (t.batch = [] → s.txnCommit.1.log = s.log) ∧
    (t.batch ≠ [] → s.rxCount ≠ 0 →
      s.txnCommit.1.log = s.log ++ [{ diffs := t.batch, many := true, state := t.working }]) := by
  unfold OV.txnCommit
  simp only [ht]
  split
  · next hb => exact ⟨rfl, rfl, fun _ => rfl, fun hne => absurd (List.isEmpty_iff.mp hb) hne⟩
  · next hb =>
    refine ⟨send_vals .., send_txn .., fun he => absurd (List.isEmpty_iff.mpr he) hb, fun _ hrx => ?_⟩
    rw [send_log]; exact if_pos hrx

/-- … and that unit is faithful: replayed on the pre-transaction contents it yields the
    post-transaction contents (given the transaction invariant, which every transaction history keeps). -/
theorem c07_commit_replay {α} (s : OV α) (t : Txn α) (ht : s.txn = some t) (hi : TxnInv s)
    (hrx : s.rxCount ≠ 0) : applyAll t.batch s.vals = some s.txnCommit.1.vals := by
  rw [(c07_commit s t ht).1]; exact hi t ht hrx

/-- the invariant holds along every transaction body -/
theorem c07_inv_run {α} (s : OV α) (evs : List (TEv α)) : TxnInv (evs.foldl OV.txnEv s.txnBegin) :=
  foldl_preserves TxnInv _ (txnEv_ind (fun u u' o r h hu => c07_inv_op u u' o r hu h) fun u _ => c07_inv_rollback u)
    evs _ (c07_inv_begin s)

-- non-vacuity: a transaction with a subscriber, `clear` in the middle, then commit
example :
    let s0 : OV Nat := ((OV.new 4).subscribe false).1
    let s1 := [TEv.op (.pushBack 1), .op .clear, .op (.pushBack 2), .op (.insert 0 3)].foldl OV.txnEv s0.txnBegin
    s1.rxCount ≠ 0 ∧ (s1.txn.map (·.batch)) = some [.clear, .pushBack 2, .insert 0 3] ∧
    s1.txnCommit.1.vals = [3, 2] := by decide

end EV
