/-
  C05 — replaying a subscriber's diffs reproduces each vector state, step by step.
-/
import EyeballVerif.Model.OVec
import EyeballVerif.Lemmas.ApplyAll
namespace EV

/-- of a recorded diff: it takes the contents before the call to those after it, and is valid on them -/
theorem faithful_some {α} {r : OpRes α} {d : Diff α} {l : List α} (hd : r.diff = some d)
    (ha : d.apply l = some r.vals) (hv : d.validOn l = true) :
    applyAll r.diff.toList l = some r.vals ∧ (r.diff = none → r.vals = l) ∧ (∀ d, r.diff = some d → d.validOn l = true) := by
  rw [hd]
  exact ⟨(applyAll_cons_valid [] hv ha).trans rfl, fun h => (by cases h), fun d' h => (by cases h; exact hv)⟩

theorem faithful_none {α} {r : OpRes α} {l : List α} (hd : r.diff = none) (hv : r.vals = l) :
    applyAll r.diff.toList l = some r.vals ∧ (r.diff = none → r.vals = l) ∧ (∀ d, r.diff = some d → d.validOn l = true) := by
  rw [hd, hv]; exact ⟨rfl, fun _ => rfl, fun _ h => nomatch h⟩

/-- C05 (per call): the diff a call hands to `broadcast_diff`, replayed strictly on the contents before
    the call, gives the contents after it; a call records no diff only if it changed nothing. -/
theorem c05_exec_faithful {α} (op : VOp α) (l : List α) (r : OpRes α) (h : op.exec l = some r) :
    applyAll r.diff.toList l = some r.vals ∧ (r.diff = none → r.vals = l) ∧
    (∀ d, r.diff = some d → d.validOn l = true) := by
  cases op with
  | append vs => cases h; exact faithful_some rfl rfl rfl
  | clear =>
    simp only [VOp.exec] at h
    split at h <;> cases h
    · exact faithful_none rfl rfl
    · exact faithful_some rfl rfl rfl
  | pushFront v => cases h; exact faithful_some rfl rfl rfl
  | pushBack v => cases h; exact faithful_some rfl rfl rfl
  | popFront =>
    cases l <;> cases h
    · exact faithful_none rfl rfl
    · exact faithful_some rfl rfl rfl
  | popBack =>
    simp only [VOp.exec] at h
    cases hl : l.getLast? with
    | none => rw [hl] at h; cases h; exact faithful_none rfl rfl
    | some x =>
      rw [hl] at h; cases h
      have hne : (!l.isEmpty) = true := by cases l <;> simp at hl ⊢
      exact faithful_some rfl rfl hne
  | insert i v =>
    simp only [VOp.exec] at h
    split at h <;> cases h
    rename_i hi
    exact faithful_some rfl (Diff.insert_apply_eq_some_iff.mpr ⟨hi, rfl⟩) (decide_eq_true hi)
  | set i v =>
    simp only [VOp.exec] at h
    cases hi : l[i]? with
    | none => rw [hi] at h; cases h
    | some old =>
      rw [hi] at h; cases h
      have hlt : i < l.length := (List.getElem?_eq_some_iff.mp hi).1
      exact faithful_some rfl (Diff.set_apply_eq_some_iff.mpr ⟨hlt, rfl⟩) (decide_eq_true hlt)
  | remove i =>
    simp only [VOp.exec] at h
    cases hi : l[i]? with
    | none => rw [hi] at h; cases h
    | some old =>
      rw [hi] at h; cases h
      have hlt : i < l.length := (List.getElem?_eq_some_iff.mp hi).1
      exact faithful_some rfl (Diff.remove_apply_eq_some_iff.mpr ⟨hlt, rfl⟩) (decide_eq_true hlt)
  | truncate n =>
    simp only [VOp.exec] at h
    split at h <;> cases h
    · rename_i hn
      exact faithful_some rfl rfl (decide_eq_true hn)
    · exact faithful_none rfl rfl

end EV
