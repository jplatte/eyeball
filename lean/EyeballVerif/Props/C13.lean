/-
  C13 — batched adapters never expose a half-applied transaction.
-/
import EyeballVerif.Lemmas.PipeBasics
import EyeballVerif.Lemmas.Recv
namespace EV

/-- **No adapter, alone or in a chain of any length, ever emits an empty batch** (given that the vector never
    publishes an empty message — which `c07_commit` guarantees). -/
theorem c13_no_empty_batch {α} (T : Tables α) (b : Bool) (sub fuel : Nat) (sts : List (Stage α)) (w : PWorld α)
    (hne : NoEmptyMsg w.ov.log) : (pollStages T b sub fuel sts w).1 ≠ .batch [] :=
  pollStages_item T b sub (fun w => NoEmptyMsg w.ov.log) (· ≠ .batch [])
    (hlim := fun w k h => by rw [limPoll_frame]; exact h)
    (hov := fun w it ov' h hw => by rw [(OV.poll_frame _ _ _ _ h).1]; exact hw)
    (hbase := fun w it ov' hw h => OV.poll_no_empty_batch _ _ _ _ hw h)
    (hone := nofun) (hpanic := nofun)
    (hemit := fun ds it rest h e => emit_nonempty b ds [] rest (e ▸ h) rfl)
    fuel sts w hne

/-- **The two containers run the same rewriting.** Handling a batch `ds₁ ++ ds₂` in one go (the `Vec`
    container's `flat_map`) produces exactly the diffs, in the same order, and the same buffered vector as
    handling `ds₁` and then `ds₂` (what the single-diff container does over consecutive polls). -/
theorem c13_mapDiffs_append {α} (h : Diff α → Nat → List α → List (Diff α)) (ds1 ds2 : List (Diff α))
    (buf : List α) (out : List (Diff α)) :
    mapDiffs h (ds1 ++ ds2) buf out = (mapDiffs h ds1 buf out).bind (fun p => mapDiffs h ds2 p.1 p.2) := by
  simp only [mapDiffs_eq_fold, foldDiffs_append]
  cases foldDiffs _ ds1 buf with
  | none => rfl
  | some p => simp only [Option.bind_some, Option.map_some, Option.map_map]; cases foldDiffs _ ds2 p.2 <;> simp [List.append_assoc]

/-- the accumulator of `mapDiffs` is only a prefix: the diffs produced for a batch do not depend on what was
    produced before it -/
theorem c13_mapDiffs_acc {α} (h : Diff α → Nat → List α → List (Diff α)) (ds : List (Diff α))
    (buf : List α) (out : List (Diff α)) :
    mapDiffs h ds buf out = (mapDiffs h ds buf []).map (fun p => (p.1, out ++ p.2)) := by
  simp only [mapDiffs_eq_fold, Option.map_map]
  rfl

end EV
