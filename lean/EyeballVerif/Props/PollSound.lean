/-
  The poll loop of a pipeline: one invariant (`PollInv`) and one theorem (`pollStages_sound`) for both stream flavours,
  static and dynamic limits / counts, with and without Sort stages.
-/
import EyeballVerif.Lemmas.TruncInv
import EyeballVerif.Props.ChainSound
namespace EV

/-! What a receiver hands to the chain (stream facts; here because `itemDiffs` is the pipeline's). -/

theorem ghostRep_itemDiffs {α} (it : Item α) (rep : List α) :
    ghostRep it (some rep) = match itemDiffs it with | some ds => applyAll ds rep | none => some rep := by
  cases it <;> rfl

theorem Polled.diffs {α} {s s' : OV α} {i : Nat} {it : Item α} {r r' : Sub α} {rep : List α} {ds : List (Diff α)}
    (hp : Polled s s' i it r r' rep) (hd : itemDiffs it = some ds) :
    r'.replica = applyAll ds rep ∧ (owed s.log r = ds ++ owed s.log r' ∨ ds = [.reset s.vals]) := by
  refine ⟨by rw [hp.replica', ghostRep_itemDiffs, hd], ?_⟩
  rcases hp.outcome with ⟨hend, -⟩ | ⟨ds', hds, -, howed⟩ | ⟨hres, -⟩
  · rcases hend with ⟨rfl, _⟩ | ⟨rfl, _⟩ <;> cases hd
  · left; cases hd.symm.trans (itemDiffs_eq_some_iff.mpr hds); exact howed
  · right; rcases hres with rfl | rfl <;> cases hd <;> rfl

theorem Polled.valid {α} {s s' : OV α} {i : Nat} {it : Item α} {r r' : Sub α} {rep : List α} {ds : List (Diff α)}
    (hp : Polled s s' i it r r' rep) (ht : TInv s) (hd : itemDiffs it = some ds) :
    ∃ rep', r'.replica = some rep' ∧ ValidRun ds rep rep' := by
  obtain ⟨hrep', howed | rfl⟩ := hp.diffs hd
  · -- the front of what is owed replays, and its `Truncate`s shorten because all that is owed does
    have htrunc := ht.subs i r rep hp.sub hp.alive hp.replica
    have hreplays := hp.replays
    rw [howed] at htrunc hreplays
    obtain ⟨rep', hx, _⟩ := applyAll_append_eq_some_iff.mp hreplays
    exact ⟨rep', hrep'.trans hx, validRun_of_truncOK hx ((truncOK_append_iff ds _ rep rep' hx).mp htrunc).1⟩
  · exact ⟨s.vals, hrep', ⟨rfl, _, rfl, trivial⟩, rfl⟩

/-- what a receiver is handed is a valid container on its replica, and takes the replica to the new replica -/
theorem poll_item_valid {α} (s s' : OV α) (i : Nat) (it : Item α) (hv : VInv s) (ht : TInv s) (h : s.poll i = some (it, s'))
    (ds : List (Diff α)) (hd : itemDiffs it = some ds) :
    ∃ r r' rep rep', s.subs[i]? = some r ∧ s'.subs[i]? = some r' ∧ r.replica = some rep ∧ r'.replica = some rep' ∧
      r'.alive = true ∧ ValidSeq ds rep ∧ applyAll ds rep = some rep' := by
  obtain ⟨r, r', rep, hp⟩ := polled_of_poll s s' i it hv h
  obtain ⟨rep', hrep', hrun⟩ := hp.valid ht hd
  exact ⟨r, r', rep, rep', hp.sub, hp.sub', hp.replica, hrep', hp.alive', hrun⟩

/-- the source has never truncated (no `Truncate` recorded in the channel) -/
def NoTruncLog {α} (s : OV α) : Prop := ∀ m ∈ s.log, NoTrunc m.diffs

theorem Polled.noTrunc {α} {s s' : OV α} {i : Nat} {it : Item α} {r r' : Sub α} {rep : List α} {ds : List (Diff α)}
    (hp : Polled s s' i it r r' rep) (hri : RestIn s) (hnl : NoTruncLog s) (hd : itemDiffs it = some ds) : NoTrunc ds := by
  obtain ⟨-, howed | rfl⟩ := hp.diffs hd
  · -- what is owed: the rest of a message, then whole messages of the log
    intro d hdm n
    have : d ∈ owed s.log r := howed ▸ List.mem_append_left _ hdm
    simp only [owed, List.mem_append, List.mem_flatMap] at this
    rcases this with hdm | ⟨m, hm, hdm⟩
    · obtain ⟨m, hm, hdm'⟩ := hri i r hp.sub d hdm
      exact hnl m hm d hdm' n
    · exact hnl m (List.mem_of_mem_drop hm) d hdm n
  · exact noTrunc_singleton nofun

/-- what the consumer of the (unbatched) pipeline has been shown so far: below every stage the view shown by the stage
    underneath, and the stage's buffered diffs lead from what it has shown to its true view -/
def ShownTop {α} (T : Tables α) : List (Stage α) → List α → List α → Prop
  | [], rep, top => top = rep
  | st :: inner, rep, top => ∃ mid, ShownTop T inner rep mid ∧ st.Inv T mid ∧ ValidSeq st.ready top ∧ applyAll st.ready top = some (st.viewOn T mid)

theorem shownTop_ready_nil {α} (T : Tables α) : ∀ (sts : List (Stage α)) (rep top : List α), (∀ st ∈ sts, st.ready = []) →
    (ShownTop T sts rep top ↔ ChainInv T sts.reverse rep ∧ top = chainView T sts.reverse rep) := by
  intro sts
  induction sts with
  | nil => intro rep top _; simp [ShownTop, ChainInv, chainView]
  | cons st inner ih =>
    intro rep top h
    obtain ⟨h1, h2⟩ := List.forall_mem_cons.mp h
    simp only [ShownTop, ih _ _ h2, h1, List.reverse_cons, chainInv_snoc, chainView_snoc, ValidSeq, applyAll_nil, Option.some.injEq]
    constructor
    · rintro ⟨mid, ⟨a, rfl⟩, b, _, rfl⟩; exact ⟨⟨a, b⟩, rfl⟩
    · rintro ⟨⟨a, b⟩, rfl⟩; exact ⟨_, ⟨a, rfl⟩, b, trivial, rfl⟩

/-- The batched flavour (`b`) buffers nothing. `nt`: the source never truncates — then Sort is fine (its `Truncate` arm is
    finding D4), nothing buffered is a `Truncate`, and there is no limit stream (a shrinking Head limit emits `Truncate`).
    Without `nt`: no Sort; limit streams anywhere but on a Tail (finding D2). -/
def Stage.Ok {α} (b nt : Bool) (st : Stage α) : Prop :=
  (b = true → st.ready = []) ∧ (st.limOf ≠ none → nt = false ∧ st.isTail = false) ∧ (nt = false → st.isSort = false) ∧
  (nt = true → NoTrunc st.ready)

theorem Stage.Ok.of_kind {α} {b nt : Bool} {st st' : Stage α} (hok : st.Ok b nt) (hk : st'.kind = st.kind)
    (hr : b = true → st'.ready = []) (hn : nt = true → NoTrunc st'.ready) : st'.Ok b nt := by
  unfold Stage.Ok at *
  rw [Stage.limOf_eq_kind_snd, Stage.isTail_kind, Stage.isSort_kind] at *
  rw [hk]
  obtain ⟨_, hlim, hsort, _⟩ := hok
  exact ⟨hr, hlim, hsort, hn⟩

theorem Stage.Ok.of_noSort {α} {b : Bool} {st : Stage α} (hr : b = true → st.ready = []) (hs : st.isSort = false)
    (ht : st.isTail = true → st.limOf = none) : st.Ok b false :=
  ⟨hr, fun h0 => ⟨rfl, Bool.eq_false_iff.mpr fun hh => h0 (ht hh)⟩, fun _ => hs, nofun⟩

theorem Stage.Ok.of_noLim {α} {b : Bool} {st : Stage α} (hr : b = true → st.ready = []) (hl : st.limOf = none)
    (hn : NoTrunc st.ready) : st.Ok b true :=
  ⟨hr, fun h0 => absurd hl h0, nofun, fun _ => hn⟩

/-- The pipeline `sts` (outermost first) on receiver `sub`, whose consumer has been shown `top`. `b = false → r.batched =
    false`: a Filter has no `ready` buffer (`Stage.setReady` on it discards), so it must never be handed two diffs at once. -/
def PollInv {α} (T : Tables α) (b nt : Bool) (sub : Nat) (sts : List (Stage α)) (s : OV α) (top : List α) : Prop :=
  (VInv s ∧ TInv s ∧ (nt = true → RestIn s ∧ NoTruncLog s)) ∧ (∀ st ∈ sts, st.Ok b nt) ∧
  ∃ r rep, s.subs[sub]? = some r ∧ r.alive = true ∧ (b = false → r.batched = false) ∧ r.replica = some rep ∧
    ShownTop T sts rep top

/-- what a poll hands out takes what the consumer has been shown, `top`, to `top'` -/
abbrev Handed {α} (b nt : Bool) (top top' : List α) (it : Item α) : Prop :=
  (b = false → ∀ ds, it ≠ .batch ds) ∧
  (match itemDiffs it with
   | some ds => ValidRun ds top top'
   | none => top' = top) ∧
  (nt = true → ∀ ds, itemDiffs it = some ds → NoTrunc ds)

abbrev PollPost {α} (T : Tables α) (b nt : Bool) (sub : Nat) (top : List α) (res : Item α × List (Stage α) × PWorld α) : Prop :=
  res.1 = .panic ∨ ∃ top', PollInv T b nt sub res.2.1 res.2.2.ov top' ∧ Handed b nt top top' res.1

theorem pollInv_cons {α} {T : Tables α} {b nt : Bool} {sub : Nat} {st : Stage α} {inner : List (Stage α)} {s : OV α} {top : List α} :
    PollInv T b nt sub (st :: inner) s top ↔
      ∃ mid, PollInv T b nt sub inner s mid ∧ st.Inv T mid ∧ st.Ok b nt ∧ ValidRun st.ready top (st.viewOn T mid) := by
  simp only [PollInv, ShownTop, List.forall_mem_cons]
  constructor
  · rintro ⟨hsrc, ⟨hok, hoks⟩, r, rep, hr, hal, hb, hrep, mid, hsh, hinv, hrun⟩
    exact ⟨mid, ⟨hsrc, hoks, r, rep, hr, hal, hb, hrep, hsh⟩, hinv, hok, hrun⟩
  · rintro ⟨mid, ⟨hsrc, hoks, r, rep, hr, hal, hb, hrep, hsh⟩, hinv, hok, hrun⟩
    exact ⟨hsrc, ⟨hok, hoks⟩, r, rep, hr, hal, hb, hrep, mid, hsh, hinv, hrun⟩

theorem ov_poll_sound {α} (T : Tables α) (b nt : Bool) (sub : Nat) (s s' : OV α) (it : Item α) (top : List α)
    (h : PollInv T b nt sub [] s top) (hp : s.poll sub = some (it, s')) :
    ∃ top', PollInv T b nt sub [] s' top' ∧ Handed b nt top top' it := by
  obtain ⟨⟨hv, ht, hlog⟩, _, r, rep, hr, hal, hb, hrep, htop⟩ := h
  obtain rfl : rep = top := htop.symm
  have hsrc : VInv s' ∧ TInv s' ∧ (nt = true → RestIn s' ∧ NoTruncLog s') :=
    ⟨vinv_poll s s' sub it hv hp, tinv_poll s s' sub it hv ht hp, fun h =>
      ⟨restIn_poll s s' sub it (hlog h).1 hp, fun m hm => (hlog h).2 m ((OV.poll_frame s s' sub it hp).1 ▸ hm)⟩⟩
  obtain ⟨r1, r', rep1, hpd⟩ := polled_of_poll s s' sub it hv hp
  obtain rfl : r = r1 := Option.some.inj (hr.symm.trans hpd.sub)
  obtain rfl : rep = rep1 := Option.some.inj (hrep.symm.trans hpd.replica)
  have hbat' : b = false → r'.batched = false := fun hb' => hpd.batched.trans (hb hb')
  have hrest : (b = false → ∀ ds, it ≠ .batch ds) ∧ (nt = true → ∀ ds, itemDiffs it = some ds → NoTrunc ds) :=
    ⟨fun hb' => plain_never_batch s s' sub it r hr (hb hb') hp, fun h ds hd => hpd.noTrunc (hlog h).1 (hlog h).2 hd⟩
  cases hd : itemDiffs it with
  | some ds =>
    obtain ⟨rep', hrep', hrun⟩ := hpd.valid ht hd
    exact ⟨rep', ⟨hsrc, List.forall_mem_nil _, r', rep', hpd.sub', hpd.alive', hbat', hrep', rfl⟩, hrest.1, by rw [hd]; exact hrun, hrest.2⟩
  | none =>
    have hrep' := hpd.replica'
    simp only [ghostRep_itemDiffs, hd] at hrep'
    exact ⟨rep, ⟨hsrc, List.forall_mem_nil _, r', rep, hpd.sub', hpd.alive', hbat', hrep', rfl⟩, hrest.1, by rw [hd], hrest.2⟩

theorem handOne_sound {α} (T : Tables α) (nt : Bool) (sub : Nat) (st : Stage α) (inner : List (Stage α)) (s : OV α)
    (mid top : List α) (d : Diff α) (rest : List (Diff α))
    (hin : PollInv T false nt sub inner s mid) (hinv : st.Inv T mid) (hok : st.Ok false nt)
    (hrun : ValidRun (d :: rest) top (st.viewOn T mid)) (hn : nt = true → NoTrunc (d :: rest))
    (hf : st.kind.1 = .filter → rest = []) :
    ∃ top', PollInv T false nt sub (st.setReady rest :: inner) s top' ∧ Handed false nt top top' (.one d) := by
  obtain ⟨top1, hd, hrun'⟩ := (validRun_cons d rest top _).mp hrun
  have hrest : (st.setReady rest).ready = rest := ready_setReady_of_filter_nil st rest hf
  have hok' : (st.setReady rest).Ok false nt :=
    hok.of_kind (kind_setReady st rest) nofun fun h => hrest.symm ▸ (noTrunc_cons.mp (hn h)).2
  refine ⟨top1, pollInv_cons.mpr ⟨mid, hin, (inv_setReady T st rest mid).mpr hinv, hok', ?_⟩, fun _ _ => nofun,
    (validRun_single d top top1).mpr hd, fun h ds hds => ?_⟩
  · rw [hrest, viewOn_setReady]; exact hrun'
  · cases hds; exact noTrunc_singleton (noTrunc_cons.mp (hn h)).1

/-- A stage with nothing buffered has produced `ds`, which take what has been shown to its view: first diff / whole batch
    handed out, rest buffered — or, `ds` empty, the loop starts over (`ih`). -/
theorem handOut_sound {α} (T : Tables α) (b nt : Bool) (sub n : Nat)
    (ih : ∀ sts (w : PWorld α) top, PollInv T b nt sub sts w.ov top → PollPost T b nt sub top (pollStages T b sub n sts w))
    (st : Stage α) (inner : List (Stage α)) (w : PWorld α) (mid top : List α) (ds : List (Diff α))
    (hin : PollInv T b nt sub inner w.ov mid) (hinv : st.Inv T mid) (hok : st.Ok b nt) (hr : st.ready = [])
    (hrun : ValidRun ds top (st.viewOn T mid)) (hn : nt = true → NoTrunc ds)
    (hf : b = false → st.kind.1 = .filter → ds.length ≤ 1) :
    PollPost T b nt sub top (match emit b ds with
      | some (it, rest) => (it, st.setReady rest :: inner, w)
      | none => pollStages T b sub n (st :: inner) w) := by
  have hnil : ValidRun st.ready (st.viewOn T mid) (st.viewOn T mid) := hr ▸ validRun_nil _
  cases ds with
  | nil =>
    cases Option.some.inj hrun.2
    exact ih _ _ _ (pollInv_cons.mpr ⟨mid, hin, hinv, hok, hnil⟩)
  | cons d rest =>
    right
    cases b with
    | true =>
      simp only [emit, if_true]
      rw [setReady_self st hr]
      exact ⟨_, pollInv_cons.mpr ⟨mid, hin, hinv, hok, hnil⟩, nofun, hrun, fun h ds hds => by cases hds; exact hn h⟩
    | false =>
      exact handOne_sound T nt sub st inner w.ov mid top d rest hin hinv hok hrun hn
        fun h => List.eq_nil_of_length_eq_zero (Nat.le_zero.mp (Nat.le_of_succ_le_succ (hf rfl h)))

/-- **The poll loop is sound** — either flavour (`b`), static and dynamic limits / counts, with (`nt`) or without Sort, any
    depth: polled where the consumer has been shown `top`, the pipeline keeps its invariant and hands out a diff / batch
    valid on `top`, leading to a `top'` from which the buffered diffs lead on to the stages' true views; `Pending` / `End`
    change nothing visible. `= .panic` covers the fuel running out and a panicking stage alike (the model has one `panic`):
    that no stage panics shows only in the proof. -/
theorem pollStages_sound {α} (T : Tables α) (b nt : Bool) (sub : Nat) :
    ∀ (fuel : Nat) (sts : List (Stage α)) (w : PWorld α) (top : List α), PollInv T b nt sub sts w.ov top →
      PollPost T b nt sub top (pollStages T b sub fuel sts w) := by
  intro fuel
  -- on the fuel, not `fun_induction`: the four inner-stream cases share one use of the hypothesis, and `handOut_sound`
  -- wants it for every chain at the smaller fuel
  induction fuel with
  | zero => intro sts w top _; left; rfl
  | succ n ih =>
    intro sts w top h
    cases sts with
    | nil =>
      rw [pollStages_nil]
      cases hp : w.ov.poll sub with
      | none => left; rfl
      | some p => right; exact ov_poll_sound T b nt sub w.ov p.2 p.1 top h hp
    | cons st inner =>
      obtain ⟨mid, hin, hinv, hok, hrun⟩ := pollInv_cons.mp h
      have ⟨hbuf, hlimok, hnosort, hntr⟩ := hok
      cases hready : st.ready with
      | cons d rest =>
        -- a buffered diff: only the unbatched flavour buffers, and not in a Filter
        rw [pollStages_cons_ready T b sub n st inner w d rest hready]
        rw [hready] at hrun hntr
        cases b with
        | true => cases hready.symm.trans (hbuf rfl)
        | false =>
          exact .inr (handOne_sound T nt sub st inner w.ov mid top d rest hin hinv hok hrun hntr
            fun hf => by rw [(filter_ready_limOf st hf).1] at hready; cases hready)
      | nil =>
        -- nothing buffered: the consumer has been shown exactly this stage's view
        rw [hready] at hrun
        cases Option.some.inj hrun.2
        by_cases hval : ∃ v, (limPoll w st.limOf).1 = .value v
        · obtain ⟨v, hval⟩ := hval
          have hlim : st.limOf ≠ none := by intro h0; rw [h0] at hval; cases hval
          obtain ⟨hnt_false, hnotail⟩ := hlimok hlim
          generalize hlp : limPoll w st.limOf = lp at hval
          obtain ⟨lres, w1⟩ := lp
          cases hval
          have hov : w1.ov = w.ov := by have := limPoll_frame w st.limOf; rw [hlp] at this; exact this
          rw [pollStages_cons_value T b sub n st inner w v w1 hready hlp]
          obtain ⟨hinv1, happly, hvalid, -⟩ := stage_onLimit_sound T st mid v hinv hnotail
          have hready1 : (st.onLimit v).2.ready = [] := (ready_onLimit st v).trans hready
          have hk1 : (st.onLimit v).2.kind = st.kind := kind_onLimit rfl
          subst hnt_false
          exact handOut_sound T b false sub n ih (st.onLimit v).2 inner w1 mid _ (st.onLimit v).1 (hin := hov ▸ hin) (hinv := hinv1)
            (hok := hok.of_kind hk1 (fun _ => hready1) fun hn => nomatch hn) (hr := hready1)
            (hrun := ⟨hvalid, happly⟩) (hn := fun hn => nomatch hn)
            (hf := fun _ hf => absurd (filter_ready_limOf _ hf).2 (by rw [Stage.limOf_of_kind hk1]; exact hlim))
        · rw [pollStages_cons_novalue T b sub n st inner w hready (fun v hv' => hval ⟨v, hv'⟩)]
          have hIH := ih inner (limPoll w st.limOf).2 mid (by rw [limPoll_frame]; exact hin)
          generalize pollStages T b sub n inner (limPoll w st.limOf).2 = res at hIH
          obtain ⟨it, inner', w2⟩ := res
          rcases hIH with hpan | ⟨mid2, hin2, hnobatch, hitem, hnotrunc⟩
          · left; cases (hpan : it = .panic); rfl
          · cases hd : itemDiffs it with
            | none =>
              simp only [hd] at hitem ⊢
              cases (hitem : mid2 = mid)
              exact .inr ⟨_, pollInv_cons.mpr ⟨mid, hin2, hinv, hok, hready ▸ validRun_nil _⟩, hnobatch, by rw [hd], hnotrunc⟩
            | some ds =>
              simp only [hd] at hitem ⊢
              have hsort : st.isSort = true → NoTrunc ds := fun hs => by
                cases hn : nt with
                | true => exact hnotrunc hn ds hd
                | false => rw [hnosort hn] at hs; cases hs
              obtain ⟨out, st2, below', hod, hbelow, hinv2, happly, hvalid, _⟩ := stage_onDiffs_sound T st mid ds hinv hitem.1 hsort
              rw [hitem.2] at hbelow; cases hbelow
              simp only [hod]
              obtain ⟨hk, hready2⟩ := onDiffs_frame T st st2 ds out hod
              refine handOut_sound T b nt sub n ih st2 inner' w2 mid2 _ out (hin := hin2) (hinv := hinv2)
                (hok := hok.of_kind hk (fun _ => hready2.trans hready) fun _ => by rw [hready2, hready]; exact noTrunc_nil)
                (hr := hready2.trans hready) (hrun := ⟨hvalid, happly⟩)
                (hn := fun hn => onDiffs_noTrunc T st st2 ds out (hnotrunc hn ds hd) hod) (hf := fun hb hf => ?_)
              -- a Filter fed one diff yields at most one
              refine Nat.le_trans (filter_onDiffs_length T st st2 ds out (hk ▸ hf) hod) ?_
              rcases itemDiffs_eq_some_iff.mp hd with rfl | ⟨d, -, rfl⟩
              · exact absurd rfl (hnobatch hb ds)
              · exact Nat.le_refl 1

end EV
