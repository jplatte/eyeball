/-
  Stage level (C09 / C10 / C11): what one whole incoming container does to a stage, lifted from the per-diff theorems
  through the one fold the model's container loops are (`foldDiffs_sound`).
-/
import EyeballVerif.Props.C09
import EyeballVerif.Props.C10
import EyeballVerif.Props.C11Sort
import EyeballVerif.Lemmas.PipeBasics
namespace EV

/-! A handler emits only `Truncate`s that shorten its view: that makes a stage's output a valid container again (`ValidRun`). -/

/-- Head never emits a `Truncate` that does not shorten its view -/
theorem head_truncOK {α} (d : Diff α) (v v' : List α) (L : Nat) (hv : d.validOn v = true) (ha : d.apply v = some v') :
    TruncOK (Head.handleDiff d L v.length v') (v.take L) := by
  by_cases ht : ∃ n, d = .truncate n
  · obtain ⟨n, rfl⟩ := ht
    have hn : n < v.length := ((validOn_iff _ v).mp hv).2 n rfl
    simp only [Head.handleDiff]
    split
    · trivial
    · split
      · trivial
      · next hlt =>
        -- `Truncate n`, forwarded when `n < L`, shortens `v.take L`, of length `min L v.length`
        refine truncOK_single _ _ ((validOn_iff _ _).mpr ⟨rfl, fun m hm => ?_⟩)
        cases hm
        rw [List.length_take]
        exact Nat.lt_min.mpr ⟨Nat.lt_of_not_le hlt, hn⟩
  · exact truncOK_of_noTrunc _ (head_noTrunc d L _ _ fun n hn => ht ⟨n, hn⟩) _

/-- Tail never emits a `Truncate` at all -/
theorem tail_truncOK {α} (d : Diff α) (L pl : Nat) (b : List α) (w : List α) : TruncOK (Tail.handleDiff d L pl b) w :=
  truncOK_of_noTrunc _ (tail_noTrunc d L pl b) w

/-- Skip: an emitted `Truncate` shortens the view -/
theorem skip_truncOK {α} (d : Diff α) (v v' : List α) (c : Nat) (hv : d.validOn v = true) (ha : d.apply v = some v') :
    TruncOK (Skip.handleDiff d c v.length v') (v.drop c) := by
  by_cases ht : ∃ n, d = .truncate n
  · obtain ⟨n, rfl⟩ := ht
    have hn : n < v.length := ((validOn_iff _ v).mp hv).2 n rfl
    simp only [Skip.handleDiff]
    split
    · split
      · next hc =>
        -- `Truncate (n - c)`, `c < n`, shortens `v.drop c`, of length `v.length - c`
        refine truncOK_single _ _ ((validOn_iff _ _).mpr ⟨rfl, fun m hm => ?_⟩)
        cases hm
        rw [List.length_drop]
        omega
      · exact truncOK_single _ _ rfl
    · trivial
  · exact truncOK_of_noTrunc _ (skip_noTrunc d c _ _ fun n hn => ht ⟨n, hn⟩) _

/-- Filter / FilterMap: an emitted `Truncate` shortens the filtered view -/
theorem filter_truncOK {α β} (f : α → Option β) (d : Diff α) (src : List α) (st : FilterSt) (hi : FInv f st src) :
    TruncOK (Filter.handle f d st).1.toList (src.filterMap f) := by
  by_cases ht : ∃ n, d = .truncate n
  · obtain ⟨n, rfl⟩ := ht
    simp only [Filter.handle]
    split
    · next hk =>
      -- `Truncate k`, `k < idx.length`; the index list is as long as the filtered view (`idxFrom_length`)
      have hl : st.idx.length = (src.filterMap f).length := by rw [hi.2, idxFrom_length]
      exact truncOK_single _ _ (decide_eq_true (hl ▸ hk))
    · trivial
  · exact truncOK_of_noTrunc _ (filter_noTrunc f d st fun n hn => ht ⟨n, hn⟩) _

open Srt in
/-- Sort: outside the `Truncate` arm no `Truncate` is emitted -/
theorem sort_noTrunc {α} (cmp : α → α → Ordering) (sortFn : List (Nat × α) → List (Nat × α)) (d : Diff α)
    (buf : List (Nat × α)) (out : List (Diff α)) (buf' : List (Nat × α)) (hnt : ∀ n, d ≠ .truncate n)
    (h : handle cmp sortFn d buf = some (out, buf')) : NoTrunc out := by
  -- result as a variable `p`: `cases h` substitutes a variable, not the pair `(out, buf')`
  suffices ∀ p, handle cmp sortFn d buf = some p → NoTrunc p.1 from this _ h
  intro p h
  cases d with
  | truncate m => exact absurd rfl (hnt m)
  | clear | reset vs => cases h; exact noTrunc_singleton nofun
  | pushFront v | pushBack v | insert i v => cases h; exact insertAt_noTrunc _ _ _ _
  | popFront | popBack | remove i =>
    simp only [handle] at h
    split at h
    · cases h
    · cases h; exact removeAt_noTrunc _ _
  | set i v =>
    cases ho : posOf buf i with
    | none => simp only [handle, ho] at h; cases h
    | some old =>
      -- `[.set _ _]` or `[.remove _, .insert _ _]`
      rw [handle_set_eq cmp sortFn buf i v old ho (posOf_eq_some ho).1] at h
      cases h
      simp only [apply_ite NoTrunc, noTrunc_cons, noTrunc_nil, ne_eq, reduceCtorEq, not_false_eq_true, implies_true, and_self,
        ite_self]
  | append vs =>
    cases hb : buf.isEmpty with
    | true => simp only [handle, hb, if_true] at h; cases h; exact noTrunc_singleton nofun
    | false =>
      simp only [handle, hb, Bool.false_eq_true, if_false] at h
      have hl := appendLoop_noTrunc cmp (sortFn (vs.mapIdx fun i v => (i + buf.length, v))) buf [] noTrunc_nil
      split at h <;> cases h
      · exact hl
      · exact noTrunc_append.mpr ⟨hl, noTrunc_singleton nofun⟩

/-- `I s v`: the loop's state `s` follows the contents `v` of the stream it sits on; `V s v`: what it shows of them;
    `R`: how an output relates the views before and after; `G`: a side condition on the diffs (no `Truncate`, for Sort). -/
theorem foldDiffs_sound {σ α β} (step : Diff α → σ → Option (List (Diff β) × σ)) (I : σ → List α → Prop) (V : σ → List α → List β)
    (G : Diff α → Prop) (R : List (Diff β) → List β → List β → Prop)
    (hnil : ∀ s v, I s v → R [] (V s v) (V s v))
    (happ : ∀ a b u u' u'', R a u u' → R b u' u'' → R (a ++ b) u u'')
    (hstep : ∀ d s v v', I s v → d.validOn v = true → d.apply v = some v' → G d →
      ∃ o s', step d s = some (o, s') ∧ I s' v' ∧ R o (V s v) (V s' v')) :
    ∀ (ds : List (Diff α)) s v, I s v → ValidSeq ds v → (∀ d ∈ ds, G d) →
      ∃ out s' v', foldDiffs step ds s = some (out, s') ∧ applyAll ds v = some v' ∧ I s' v' ∧ R out (V s v) (V s' v') := by
  intro ds
  induction ds with
  | nil => intro s v hi _ _; exact ⟨[], s, v, rfl, rfl, hi, hnil s v hi⟩
  | cons d ds ih =>
    intro s v hi ⟨hvalid, v1, happly, hrest⟩ hg
    obtain ⟨hgd, hgs⟩ := List.forall_mem_cons.mp hg
    obtain ⟨o, s1, hstep1, hi1, hrel1⟩ := hstep d s v v1 hi hvalid happly hgd
    obtain ⟨out, s', v', hfold, hreplay, hi', hrel⟩ := ih s1 v1 hi1 hrest hgs
    exact ⟨o ++ out, s', v', foldDiffs_cons_eq_some_iff.mpr ⟨o, s1, out, hstep1, hfold, rfl⟩,
      (applyAll_cons_valid ds hvalid happly).trans hreplay, hi', happ _ _ _ _ _ hrel1 hrel⟩

theorem mapFold_sound {α} (h : Diff α → Nat → List α → List (Diff α)) (V : List α → List α)
    (R : List (Diff α) → List α → List α → Prop)
    (hnil : ∀ v, R [] (V v) (V v)) (happ : ∀ a b u u' u'', R a u u' → R b u' u'' → R (a ++ b) u u'')
    (hs : ∀ d v v', d.validOn v = true → d.apply v = some v' → R (h d v.length v') (V v) (V v'))
    (ds : List (Diff α)) (buf : List α) (hv : ValidSeq ds buf) :
    ∃ out buf', foldDiffs (mapStep h) ds buf = some (out, buf') ∧ applyAll ds buf = some buf' ∧ R out (V buf) (V buf') := by
  obtain ⟨out, buf', _, e1, e2, rfl, e4⟩ := foldDiffs_sound (mapStep h) (fun b v => b = v) (fun b _ => V b) (fun _ => True) R
    (fun s _ _ => hnil s) happ
    (fun d s v v' hi h1 h2 _ => by subst hi; exact ⟨_, v', by rw [mapStep, h2]; rfl, rfl, hs d s v' h1 h2⟩)
    ds buf buf rfl hv (fun _ _ => trivial)
  exact ⟨out, buf', e1, e2, e4⟩

/-- **Stage-level loop invariant of `push_into_*_buf`** (Head / Tail / Skip): if every single diff is rewritten
    soundly with respect to the view `V`, then a whole container is: the buffered vector follows the source, and
    the concatenated output takes the old view to the new one. -/
theorem mapDiffs_sound {α} (h : Diff α → Nat → List α → List (Diff α)) (V : List α → List α)
    (hs : ∀ d v v', d.validOn v = true → d.apply v = some v' → applyAll (h d v.length v') (V v) = some (V v')) :
    ∀ (ds : List (Diff α)) (buf : List α) (out : List (Diff α)), ValidSeq ds buf →
      ∃ buf' ds', mapDiffs h ds buf out = some (buf', out ++ ds') ∧ applyAll ds buf = some buf' ∧
        applyAll ds' (V buf) = some (V buf') := by
  intro ds buf out hv
  obtain ⟨o, buf', e1, e2, e3⟩ := mapFold_sound h V (fun o u u' => applyAll o u = some u') (fun _ => rfl) replay_append hs ds buf hv
  exact ⟨buf', o, by rw [mapDiffs_eq_fold, e1]; rfl, e2, e3⟩

/-- the view a stage presents of its buffered source -/
def Stage.view {α} (T : Tables α) : Stage α → List α
  | .head l _ buf _ => buf.take l
  | .tail l _ buf _ => lastN l buf
  | .skip c _ buf _ => Skip.viewOf c buf
  | .filter _ _ => []       -- the filter keeps no copy: its view is `src.filterMap f` of the source it follows
  | .sort _ buf _ => buf.map (·.2)

theorem head_onDiffs_run {α} (T : Tables α) (l : Nat) (k : Option Nat) (buf : List α) (r ds : List (Diff α)) (hv : ValidSeq ds buf) :
    ∃ buf' out, (Stage.head l k buf r).onDiffs T ds = some (out, .head l k buf' r) ∧ applyAll ds buf = some buf' ∧
      ValidRun out (buf.take l) (buf'.take l) := by
  obtain ⟨out, buf', hfold, hbuf', hrun⟩ := mapFold_sound (fun d pl b => Head.handleDiff d l pl b) (fun v => v.take l) ValidRun
    (fun _ => validRun_nil _) validRun_append
    (fun d v v' a b => validRun_of_truncOK (head_handle_diff d v v' l a b) (head_truncOK d v v' l a b)) ds buf hv
  exact ⟨buf', out, by rw [onDiffs_head_eq_fold, hfold]; rfl, hbuf', hrun⟩

theorem head_onDiffs {α} (T : Tables α) (l : Nat) (k : Option Nat) (buf : List α) (r ds : List (Diff α)) (hv : ValidSeq ds buf) :
    ∃ buf' out, (Stage.head l k buf r).onDiffs T ds = some (out, .head l k buf' r) ∧ applyAll ds buf = some buf' ∧
      applyAll out (buf.take l) = some (buf'.take l) :=
  let ⟨buf', out, hod, hbuf', hrun⟩ := head_onDiffs_run T l k buf r ds hv
  ⟨buf', out, hod, hbuf', hrun.2⟩

theorem tail_onDiffs_run {α} (T : Tables α) (l : Nat) (k : Option Nat) (buf : List α) (r ds : List (Diff α)) (hv : ValidSeq ds buf) :
    ∃ buf' out, (Stage.tail l k buf r).onDiffs T ds = some (out, .tail l k buf' r) ∧ applyAll ds buf = some buf' ∧
      ValidRun out (lastN l buf) (lastN l buf') := by
  obtain ⟨out, buf', hfold, hbuf', hrun⟩ := mapFold_sound (fun d pl b => Tail.handleDiff d l pl b) (fun v => lastN l v) ValidRun
    (fun _ => validRun_nil _) validRun_append
    (fun d v v' a b => validRun_of_truncOK (tail_handle_diff d v v' l a b) (tail_truncOK d l v.length v' _)) ds buf hv
  exact ⟨buf', out, by rw [onDiffs_tail_eq_fold, hfold]; rfl, hbuf', hrun⟩

theorem tail_onDiffs {α} (T : Tables α) (l : Nat) (k : Option Nat) (buf : List α) (r ds : List (Diff α)) (hv : ValidSeq ds buf) :
    ∃ buf' out, (Stage.tail l k buf r).onDiffs T ds = some (out, .tail l k buf' r) ∧ applyAll ds buf = some buf' ∧
      applyAll out (lastN l buf) = some (lastN l buf') :=
  let ⟨buf', out, hod, hbuf', hrun⟩ := tail_onDiffs_run T l k buf r ds hv
  ⟨buf', out, hod, hbuf', hrun.2⟩

theorem skip_onDiffs_run {α} (T : Tables α) (c : Option Nat) (k : Option Nat) (buf : List α) (r ds : List (Diff α)) (hv : ValidSeq ds buf) :
    ∃ buf' out, (Stage.skip c k buf r).onDiffs T ds = some (out, .skip c k buf' r) ∧ applyAll ds buf = some buf' ∧
      ValidRun out (Skip.viewOf c buf) (Skip.viewOf c buf') := by
  obtain ⟨out, buf', hfold, hbuf', hrun⟩ := mapFold_sound (skipHandler c)
    (Skip.viewOf c) ValidRun (fun _ => validRun_nil _) validRun_append
    (fun d v v' a b => by
      cases c with
      | none => exact validRun_nil _        -- no count yet: nothing emitted, the view stays `[]`
      | some c => exact validRun_of_truncOK (skip_handle_diff d v v' c a b) (skip_truncOK d v v' c a b)) ds buf hv
  exact ⟨buf', out, by rw [onDiffs_skip_eq_fold, hfold]; rfl, hbuf', hrun⟩

theorem skip_onDiffs {α} (T : Tables α) (c : Option Nat) (k : Option Nat) (buf : List α) (r ds : List (Diff α)) (hv : ValidSeq ds buf) :
    ∃ buf' out, (Stage.skip c k buf r).onDiffs T ds = some (out, .skip c k buf' r) ∧ applyAll ds buf = some buf' ∧
      applyAll out (Skip.viewOf c buf) = some (Skip.viewOf c buf') :=
  let ⟨buf', out, hod, hbuf', hrun⟩ := skip_onDiffs_run T c k buf r ds hv
  ⟨buf', out, hod, hbuf', hrun.2⟩

theorem filter_onDiffs_run {α} (T : Tables α) (fid : Nat) (st : FilterSt) (ds : List (Diff α)) (src : List α)
    (hv : ValidSeq ds src) (hi : FInv (T.filt fid) st src) :
    ∃ src' out st', (Stage.filter fid st).onDiffs T ds = some (out, .filter fid st') ∧ applyAll ds src = some src' ∧
      FInv (T.filt fid) st' src' ∧ ValidRun out (src.filterMap (T.filt fid)) (src'.filterMap (T.filt fid)) := by
  obtain ⟨out, st', src', hfold, hsrc', hi', hrun⟩ := foldDiffs_sound (filterStep (T.filt fid)) (FInv (T.filt fid))
    (fun _ v => v.filterMap (T.filt fid)) (fun _ => True) ValidRun (fun _ _ _ => validRun_nil _) validRun_append
    (fun d s v v' hi hvalid happly _ => by
      obtain ⟨hi', hreplay⟩ := filter_handle (T.filt fid) d v v' s hvalid happly hi
      exact ⟨_, _, rfl, hi', validRun_of_truncOK hreplay (filter_truncOK (T.filt fid) d v s hi)⟩)
    ds st src hi hv (fun _ _ => trivial)
  exact ⟨src', out, st', by rw [onDiffs_filter_eq_fold, hfold]; rfl, hsrc', hi', hrun⟩

/-- Filter / FilterMap: a whole container through `filter_map(handle)` -/
theorem filter_onDiffs {α} (T : Tables α) (fid : Nat) (st : FilterSt) (ds : List (Diff α)) :
    ∀ (src : List α), ValidSeq ds src → FInv (T.filt fid) st src →
    ∃ src' out st', (Stage.filter fid st).onDiffs T ds = some (out, .filter fid st') ∧ applyAll ds src = some src' ∧
      FInv (T.filt fid) st' src' ∧ applyAll out (src.filterMap (T.filt fid)) = some (src'.filterMap (T.filt fid)) :=
  fun src hv hi =>
    let ⟨src', out, st', hod, hsrc', hi', hrun⟩ := filter_onDiffs_run T fid st ds src hv hi
    ⟨src', out, st', hod, hsrc', hi', hrun.2⟩

theorem sort_onDiffs_run {α} (T : Tables α) (cid : Nat) (hc : LawfulCmp (T.cmp cid)) (hss : SortSpec (T.cmp cid) (T.sort cid))
    (r : List (Diff α)) (ds : List (Diff α)) (src : List α) (buf : List (Nat × α))
    (hv : ValidSeq ds src) (hnt : NoTrunc ds) (hi : SInvP (T.cmp cid) buf src) :
    ∃ src' out buf', (Stage.sort cid buf r).onDiffs T ds = some (out, .sort cid buf' r) ∧ applyAll ds src = some src' ∧
      SInvP (T.cmp cid) buf' src' ∧ ValidRun out (buf.map (·.2)) (buf'.map (·.2)) := by
  obtain ⟨out, buf', src', hfold, hsrc', hi', hrun⟩ := foldDiffs_sound (Srt.handle (T.cmp cid) (T.sort cid)) (SInvP (T.cmp cid))
    (fun b _ => b.map (·.2)) (fun d => ∀ n, d ≠ .truncate n) ValidRun (fun _ _ _ => validRun_nil _) validRun_append
    (fun d s v v' hi hvalid happly hnt => by
      obtain ⟨o, b', hhandle, hi', hreplay⟩ :=
        sort_handle_sound hc (T.sort cid) hss d v v' s hvalid happly (fun n hn => absurd hn (hnt n)) hi
      exact ⟨o, b', hhandle, hi', validRun_of_truncOK hreplay (truncOK_of_noTrunc o (sort_noTrunc _ _ d s o b' hnt hhandle) _)⟩)
    ds buf src hi hv hnt
  exact ⟨src', out, buf', by rw [onDiffs_sort_eq_fold, hfold]; rfl, hsrc', hi', hrun⟩

/-- Sort / SortBy / SortByKey: a whole container through the arm-by-arm handler -/
theorem sort_onDiffs {α} (T : Tables α) (cid : Nat) (hc : LawfulCmp (T.cmp cid)) (hss : SortSpec (T.cmp cid) (T.sort cid))
    (r : List (Diff α)) (ds : List (Diff α)) :
    ∀ (src : List α) (buf : List (Nat × α)), ValidSeq ds src → NoTrunc ds → SInvP (T.cmp cid) buf src →
    ∃ src' out buf', (Stage.sort cid buf r).onDiffs T ds = some (out, .sort cid buf' r) ∧ applyAll ds src = some src' ∧
      SInvP (T.cmp cid) buf' src' ∧ applyAll out (buf.map (·.2)) = some (buf'.map (·.2)) :=
  fun src buf hv hnt hi =>
    let ⟨src', out, buf', hod, hsrc', hi', hrun⟩ := sort_onDiffs_run T cid hc hss r ds src buf hv hnt hi
    ⟨src', out, buf', hod, hsrc', hi', hrun.2⟩

end EV
