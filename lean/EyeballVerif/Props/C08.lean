/-
  C08 — vector streams end only when the vector is dropped, and on its final state (receiver level).
-/
import EyeballVerif.Lemmas.Recv
import EyeballVerif.Lemmas.Traversal  -- `OV.parked_unparkAll`
namespace EV

/-- **Never ends while the vector is alive** (`closed = false`), for every log, window and receiver state,
    both stream flavours. -/
theorem c08_no_early_end {α} (B : Nat) (log : List (Msg α)) (r : Sub α) :
    (pollPlain B log false r).1 ≠ .done ∧ (pollBatched B log false r).1 ≠ .done :=
  ⟨fun h => Bool.false_ne_true (pstep_plain h).of_done.1,
   fun h => Bool.false_ne_true (pstep_batched h).of_done.1⟩

/-- **Ends only after everything was delivered.** When a poll reports the end of the stream, the receiver was
    not behind the window (so the lag path — which now hands out the final state first — was not taken),
    its cursor is at the end of the log and no batch remainder is left: the replica has received every
    published update (with `c05_replay_inv` this makes it equal to the final contents). -/
theorem c08_end_consumed_all {α} (B : Nat) (log : List (Msg α)) (c : Bool) (r : Sub α) (hB : 0 < B) :
    ((pollPlain B log c r).1 = .done → r.rest = [] ∧ log.length ≤ r.next ∧ c = true) ∧
    ((pollBatched B log c r).1 = .done → log.length ≤ r.next ∧ c = true) := by
  constructor <;> intro h
  · obtain ⟨hc, ⟨hi, hn⟩ | h0⟩ := (pstep_plain h).of_done
    · exact ⟨hi rfl, hn, hc⟩
    · omega
  · obtain ⟨hc, ⟨-, hn⟩ | h0⟩ := (pstep_batched h).of_done
    · exact ⟨hn, hc⟩
    · omega

/-- a lagging receiver of a dropped vector is first handed the final state (the repaired `handle_lag`) -/
theorem c08_lagged_after_drop_gets_final {α} (B : Nat) (log : List (Msg α)) (r : Sub α) (hB : 0 < B)
    (hr : r.rest = []) (hl : r.next + B < log.length) :
    ∃ m, log.getLast? = some m ∧ (pollPlain B log true r).1 = .one (.reset m.state) ∧
      (pollBatched B log true r).1 = .batch [.reset m.state] := by
  obtain ⟨m, hm⟩ := exists_getLast?_of_lt hl
  exact ⟨m, hm, congrArg (·.1) (PStep.reset (b := false) _ _ (fun _ => hr) hB hl hm rfl).sound,
    congrArg (·.1) (PStep.reset (b := true) _ _ (fun h => by cases h) hB hl hm rfl).sound⟩

/-- dropping the vector wakes every parked receiver and closes the channel -/
theorem c08_drop_wakes {α} (s : OV α) :
    s.dropVec.2 = s.parked ∧ s.dropVec.1.alive = false ∧ s.dropVec.1.parked = [] :=
  ⟨rfl, rfl, s.parked_unparkAll⟩

end EV
