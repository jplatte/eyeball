/-
  C20 — every value given to the library is dropped exactly once, and nothing leaks. The ledger of the `eyeball` crate's
  values (`Model/Own`; the vector crates and the `unsafe` blocks are covered by the instrumented runs and Miri only — see
  DESIGN.md), and the reusable boxed future (`Model/RBox`): every future handed in is stored, dropped once, or leaked —
  leaked only by a `set` with a different layout whose stored future's destructor panics, a path the crate never takes.
-/
import EyeballVerif.Model.Own
import EyeballVerif.Model.RBox
import EyeballVerif.Lemmas.ListExtra
namespace EV

/-- every instance ever created (ids `0 .. next-1`) is in exactly one place, exactly once; nothing else exists -/
def LedgerOK (l : Ledger) : Prop :=
  ∀ x, l.held.count x + l.caller.count x + l.destroyed.count x = if x < l.next then 1 else 0

theorem ledger_init_ok : LedgerOK Ledger.init := fun x => by
  rw [← List.count_range]; rfl

/-- **No instance is ever in two places, dropped twice, or lost**: the partition is preserved by every call. -/
theorem c20_ledger_step (l : Ledger) (op : OwnOp) (h : LedgerOK l) : LedgerOK (l.step op) := by
  intro x
  have hx := h x
  -- the right-hand side counts `x` in `range next`, and `range (n + 1) = range n ++ [n]`: every call only moves
  -- lists about and appends `[next]`, so both sides are sums of the same counts
  rw [← List.count_range] at hx ⊢
  cases op <;> simp only [Ledger.step, List.range_succ, List.count_append, List.count_nil] <;> omega

theorem c20_ledger_run (ops : List OwnOp) : LedgerOK (ops.foldl Ledger.step Ledger.init) :=
  foldl_preserves LedgerOK _ c20_ledger_step ops _ ledger_init_ok

theorem admissible_cons (op : OwnOp) (rest : List OwnOp) :
    admissible (op :: rest) = if op = .dropState then rest.isEmpty else admissible rest := by
  cases op <;> rfl

theorem Ledger.step_held (l : Ledger) (op : OwnOp) (h : l.held.length = 1) :
    (l.step op).held.length = if op = .dropState then 0 else 1 := by
  cases op <;> first | exact h | rfl

theorem Ledger.held_run (ops : List OwnOp) (l : Ledger) (hl : l.held.length = 1) (ha : admissible ops = true) :
    (ops.foldl Ledger.step l).held.length = if ops.getLast? = some .dropState then 0 else 1 := by
  induction ops generalizing l with
  | nil => exact hl
  | cons op rest ih =>
    have hs := l.step_held op hl
    rw [admissible_cons] at ha
    cases rest with
    | nil => simpa using hs
    | cons r rs =>
      split at ha
      · cases ha
      · rw [if_neg ‹_›] at hs; rw [List.getLast?_cons_cons]; exact ih _ hs ha

/-- the library owns exactly one instance — the current value — until the state is destroyed, none afterwards -/
theorem c20_held_one (ops : List OwnOp) (ha : admissible ops = true) :
    ((ops.foldl Ledger.step Ledger.init).held.length = if ops.getLast? = some .dropState then 0 else 1) :=
  Ledger.held_run ops _ rfl ha

/-- **All gone**: once the state has been destroyed, every instance ever created has either been destroyed by
    the library exactly once or handed to the caller exactly once — none is left with the library, none twice. -/
theorem c20_all_accounted (l : Ledger) (h : LedgerOK l) (hd : l.held = []) (x : Nat) (hx : x < l.next) :
    l.caller.count x + l.destroyed.count x = 1 := by
  simpa [hd, hx] using h x

example : (([OwnOp.set, .cloneOut, .setSkipped, .take, .intoShared, .dropState].foldl Ledger.step Ledger.init)
    = { next := 5, held := [], caller := [0, 2, 1], destroyed := [3, 4] }) := by decide

/-- the hypothesis of `c20_held_one` is satisfiable by real histories (and not by every list) -/
example : admissible [OwnOp.set, .cloneOut, .take, .intoShared, .dropState] = true ∧
    admissible [OwnOp.set, .dropState, .cloneOut] = false ∧ admissible ([] : List OwnOp) = true := by decide

/-- where the futures are: every id given so far is stored, dropped or leaked, exactly once; one allocation iff a
    future is stored; a dropped box stores nothing -/
structure RBInv (b : RB) : Prop where
  part : ∀ x, b.dropped.count x + b.leaked.count x + (match b.cur with | some f => if f.id = x then 1 else 0 | none => 0) = b.given.count x
  alloc : b.allocLive = (match b.cur with | some _ => 1 | none => 0)
  dead : b.alive = false → b.cur = none

theorem rbinv_new (f : Fut) : RBInv (RB.new f) :=
  ⟨fun x => (count_snoc [] f.id x).symm, rfl, fun h => by cases h⟩

theorem rbinv_set (b : RB) (f : Fut) (hi : RBInv b) (ha : b.alive = true) : RBInv (b.set f).1 := by
  obtain ⟨hp, hal, -⟩ := hi
  -- alive before and after: the `dead` clause holds vacuously
  have hdead {c : Option Fut} (h : b.alive = false) : c = none := by cases ha.symm.trans h
  -- every branch: `f.id` joins `given`, the stored id (if any) `dropped`, `f` is stored or its id joins `leaked`;
  -- per id, linear arithmetic in the indicators `[f.id = x]`, `[old.id = x]`
  unfold RB.set
  cases hc : b.cur with
  | none =>
    simp only [hc] at hp hal ⊢
    exact ⟨fun x => by have := hp x; simp only [count_snoc]; omega, by simp only [hal], hdead⟩
  | some old =>
    simp only [hc] at hp hal ⊢
    -- replaced in place / new future leaked / old box freed and a new one allocated: the counts move alike
    split
    · exact ⟨fun x => by have := hp x; simp only [count_snoc]; omega, hal, hdead⟩
    · split
      · exact ⟨fun x => by have := hp x; simp only [count_snoc]; omega, by simp only [hal], hdead⟩
      · exact ⟨fun x => by have := hp x; simp only [count_snoc]; omega, by simp only [hal], hdead⟩

theorem rbinv_drop (b : RB) (hi : RBInv b) : RBInv b.drop.1 := by
  obtain ⟨hp, hal, -⟩ := hi
  unfold RB.drop
  cases hc : b.cur with
  | none => simp only [hc] at hp hal ⊢; exact ⟨hp, hal, fun _ => rfl⟩
  | some f =>
    simp only [hc] at hp hal ⊢
    exact ⟨fun x => by have := hp x; simp only [count_snoc]; omega, by simp only [hal], fun _ => rfl⟩

theorem RB.step_cases {P : RB → Prop} (b : RB) (op : RBOp) (h0 : P b)
    (hset : ∀ f, op = .set f → b.alive = true → P (b.set f).1) (hdrop : b.alive = true → P b.drop.1) : P (b.step op) := by
  cases op with
  | poll => exact h0
  | set f => simp only [RB.step]; split; exact hset f rfl ‹_›; exact h0
  | drop => simp only [RB.step]; split; exact hdrop ‹_›; exact h0

theorem rbinv_step (b : RB) (op : RBOp) (hi : RBInv b) : RBInv (b.step op) :=
  RB.step_cases b op hi (fun f _ ha => rbinv_set b f hi ha) fun _ => rbinv_drop b hi

/-- **every history**: after any sequence of operations starting from `new f0`, every future handed in is stored,
    dropped or leaked — exactly once — and the box owns one allocation exactly while it stores a future -/
theorem c20_box_run (f0 : Fut) (ops : List RBOp) : RBInv (ops.foldl RB.step (RB.new f0)) :=
  foldl_preserves RBInv _ rbinv_step ops _ (rbinv_new f0)

theorem rbinv_dead (b : RB) (hi : RBInv b) (hd : b.alive = false) (x : Nat) :
    b.dropped.count x + b.leaked.count x = b.given.count x ∧ b.allocLive = 0 := by
  have hp := hi.part x
  have ha := hi.alloc
  rw [hi.dead hd] at hp ha
  exact ⟨hp, ha⟩

/-- the crate's use: one future type (one layout), destructors that do not panic -/
def Uniform (L : Nat) (f : Fut) : Prop := f.layout = L ∧ f.dropPanics = false

def RBOp.uniform (L : Nat) : RBOp → Prop
  | .set f => Uniform L f
  | _ => True

/-- what holds in addition when every future has the same layout and no destructor panics: nothing is ever leaked,
    no operation panics, and no `set` allocates -/
structure RBUni (L : Nat) (b : RB) : Prop where
  noLeak : b.leaked = []
  oneAlloc : b.allocs = 1
  cur : ∀ f, b.cur = some f → Uniform L f
  stored : b.alive = true → b.cur.isSome

/-- in a uniform state a uniform `set` takes the in-place branch -/
theorem rbuni_set (L : Nat) (b : RB) (f : Fut) (hu : RBUni L b) (hf : Uniform L f) (ha : b.alive = true) :
    ∃ old, b.cur = some old ∧
      b.set f = ({ b with given := b.given ++ [f.id], cur := some f, dropped := b.dropped ++ [old.id] }, false) := by
  obtain ⟨old, hc⟩ := Option.isSome_iff_exists.mp (hu.stored ha)
  have ho := hu.cur old hc
  exact ⟨old, hc, by simp only [RB.set, hc, ho.1, hf.1, ho.2, if_true]⟩

theorem rbuni_step (L : Nat) (b : RB) (op : RBOp) (hu : RBUni L b) (hop : op.uniform L) : RBUni L (b.step op) := by
  refine RB.step_cases b op hu (fun f hf ha => ?_) fun _ => ?_
  · subst hf
    obtain ⟨old, -, hs⟩ := rbuni_set L b f hu hop ha
    rw [hs]
    exact ⟨hu.noLeak, hu.oneAlloc, fun g hg => by cases hg; exact hop, fun _ => rfl⟩
  · unfold RB.drop; split
    · exact ⟨hu.noLeak, hu.oneAlloc, hu.cur, fun h => (by cases h)⟩
    · exact ⟨hu.noLeak, hu.oneAlloc, fun g hg => (by cases hg), fun h => (by cases h)⟩

/-- **the way the crate uses it** (one future type, no panicking destructor): over every history nothing is leaked and
    the box never allocates again after `new` — "replace the future without reallocating" -/
theorem c20_box_uniform (L : Nat) (f0 : Fut) (h0 : Uniform L f0) (ops : List RBOp) (hops : ∀ op ∈ ops, op.uniform L) :
    RBUni L (ops.foldl RB.step (RB.new f0)) :=
  List.foldlRecOn ops _ ⟨rfl, rfl, fun f hf => by cases hf; exact h0, fun _ => rfl⟩
    fun b hb op hop => rbuni_step L b op hb (hops op hop)

/-- **all gone**: once the box has been dropped, every future handed to it in a uniform history has been dropped exactly once -/
theorem c20_box_all_dropped (L : Nat) (f0 : Fut) (h0 : Uniform L f0) (ops : List RBOp) (hops : ∀ op ∈ ops, op.uniform L)
    (hdead : (ops.foldl RB.step (RB.new f0)).alive = false) (x : Nat) :
    (ops.foldl RB.step (RB.new f0)).dropped.count x = (ops.foldl RB.step (RB.new f0)).given.count x ∧
    (ops.foldl RB.step (RB.new f0)).allocLive = 0 := by
  have h := rbinv_dead _ (c20_box_run f0 ops) hdead x
  rwa [(c20_box_uniform L f0 h0 ops hops).noLeak] at h

/-- `set` allocates exactly when the layouts differ (and the stored future's destructor does not panic) -/
theorem c20_box_realloc_iff (b : RB) (f old : Fut) (hc : b.cur = some old) (hp : old.dropPanics = false) :
    (b.set f).1.allocs = b.allocs + (if old.layout = f.layout then 0 else 1) := by
  unfold RB.set
  simp only [hc]
  by_cases hl : old.layout = f.layout <;> simp [hl, hp]

/-- the leak (kernel-evaluated): different layout + a panicking destructor of the stored future loses the new one -/
example : ((RB.new ⟨1, 8, true⟩).set ⟨2, 16, false⟩) =
    ({ cur := none, alive := true, dropped := [1], leaked := [2], allocLive := 0, allocs := 1, given := [1, 2] }, true) := by decide

/-- non-vacuity of the uniform theorems -/
example : (([.set ⟨2, 8, false⟩, .poll, .set ⟨3, 8, false⟩, .drop] : List RBOp).foldl RB.step (RB.new ⟨1, 8, false⟩)) =
    { cur := none, alive := false, dropped := [1, 2, 3], leaked := [], allocLive := 0, allocs := 1, given := [1, 2, 3] } := by decide

end EV
