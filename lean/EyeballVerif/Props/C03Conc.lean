/-
  C03 across threads — the stream ends exactly when the last owner is gone, also when the last clones are
  dropped (or a weak reference is upgraded) concurrently.
-/
import EyeballVerif.Lemmas.ConcInv
namespace EV

/-- nobody is in the middle of closing -/
def CS.noneClosing (s : CS) : Prop := ∀ t, t < s.ths.length → (s.thAt t).closing = false

/-- **Closed iff no owner, every schedule** (repaired drop protocol). In every reachable state in which no
    dropping thread is between its "I am the last clone" decision and the close it entails — in particular
    at quiescence — the observable is closed exactly if the clone counter says that no owner exists. -/
theorem c03_conc_closed_iff (s : CS) (h : CReach s) (hq : s.noneClosing) : s.version = 0 ↔ s.ncStrong = 0 := by
  have hi := creach_inv h
  constructor
  · exact hi.closed_no_owner
  · intro h0
    rcases hi.owner_or_closing h0 with hv | ⟨t, ht, hc⟩
    · exact hv
    · have := hq t ht; rw [this] at hc; cases hc

/-- never closed while an owner exists, whatever the threads are doing -/
theorem c03_conc_open_while_owned (s : CS) (h : CReach s) (ho : s.ncStrong ≠ 0) : s.version ≠ 0 :=
  fun hv => ho ((creach_inv h).closed_no_owner hv)

/-- full statement for the *original* protocol (count read first, reference released when the field is dropped) -/
def c03_conc_racy_full : Prop :=
  ∀ (sched : List Nat), let s := (CS.init false 1 2 1 [(.dropClone, false), (.dropClone, false)]).run sched
    (∀ t ∈ List.range s.ths.length, (s.thAt t).closing = false) →
    (∀ t ∈ List.range s.ths.length, (s.thAt t).pc = .finished) → (s.version = 0 ↔ s.ncStrong = 0)

/-- **D7, kernel-checked**: both clones read a count of 2, neither closes. -/
theorem c03_conc_racy_counterexample : ¬ c03_conc_racy_full := by
  intro h
  have := h [0, 1, 0, 1] (by decide) (by decide)
  revert this; decide

/-- the same schedule under the repaired protocol ends closed -/
example :
    let s := (CS.init true 1 2 1 [(.dropClone, false), (.dropClone, false)]).run [0, 1, 0, 1, 1, 1, 1]
    s.version = 0 ∧ s.ncStrong = 0 ∧ (s.thAt 1).pc = .finished := by decide

end EV
