/-
  C09 — Head, Tail and Skip present exactly the first / last / remaining items.

  Per-arm refinement: for every diff that is `validOn` the buffered vector, every limit/count and every
  vector, the diffs the adapter emits, replayed *strictly* on its old view, produce its new view
  (`applyAll … = some …` also says that each emitted diff is applicable to the view built so far).
  Limit / count changes likewise. Tail's `update_limit` violates this for one class of inputs
  (known finding D2): full statement, kernel-checked counterexample and the strongest partial theorem.

  Each view is the source cut at one place (`take L`, `drop c`, `drop (length - L)`); an arm says on which side of the
  cut the diff acts and what crosses it (window lemmas of `Lemmas/ListExtra`).
-/
import EyeballVerif.Lemmas.AdapterBasics
namespace EV


/-- Head: the rewritten diffs take the old view `take L` to the new view `take L`. -/
theorem head_handle_diff {α} (d : Diff α) (v v' : List α) (L : Nat)
    (hv : d.validOn v = true) (ha : d.apply v = some v') :
    applyAll (Head.handleDiff d L v.length v') (v.take L) = some (v'.take L) := by
  -- Limit `0`: nothing emitted, both views empty. Else the view is `v.take (n + 1)` and three situations recur: diff
  -- behind the cut (view unchanged, nothing emitted); source shorter than the limit (forwarded, `applyAll_forward`);
  -- view full and diff in front of the cut (an item crosses: the leaves say which).
  cases L with
  | zero => rfl
  | succ n =>
  unfold Head.handleDiff
  rw [if_neg (Nat.succ_ne_zero n)]
  cases d with
  | clear => cases ha; rfl
  | reset vs =>
    obtain rfl : vs = v' := Option.some.inj ha
    dsimp only
    by_cases h : vs.length > n + 1
    · rw [if_pos h]; rfl
    · rw [if_neg h, List.take_of_length_le (Nat.le_of_not_lt h)]; rfl
  | append vs =>
    cases ha; dsimp only
    by_cases hf : v.length ≥ n + 1
    · simp only [hf, decide_true, if_true]
      rw [List.take_append_of_le_length hf]; rfl
    · -- fourth situation, here only: the new items straddle the cut and are cut to the room left
      simp only [hf, decide_false, Bool.false_eq_true, if_false]
      rw [applyAll_single, ← List.take_eq_take_min, List.take_append, List.take_of_length_le (Nat.le_of_not_le hf)]; rfl
  | pushFront x =>
    cases ha; dsimp only
    by_cases hf : v.length ≥ n + 1
    · -- the last visible item goes
      simp only [hf, decide_true, if_true, List.singleton_append]
      rw [applyAll_popBack_take _ v hf, List.take_succ_cons]; rfl
    · simp only [hf, decide_false, Bool.false_eq_true, if_false, List.nil_append]
      exact applyAll_forward hv rfl (List.take_of_length_le (Nat.le_of_not_le hf)) (List.take_of_length_le (Nat.lt_of_not_le hf))
  | pushBack x =>
    cases ha; dsimp only
    by_cases hf : v.length ≥ n + 1
    · simp only [hf, decide_true, if_true]
      rw [List.take_append_of_le_length hf]; rfl
    · simp only [hf, decide_false, Bool.false_eq_true, if_false]
      exact applyAll_forward hv rfl (List.take_of_length_le (Nat.le_of_not_le hf))
        (List.take_of_length_le (by rw [List.length_append]; exact Nat.lt_of_not_le hf))
  | popFront =>
    cases ha; dsimp only
    cases v with
    | nil => cases hv
    | cons a w =>
      -- the item behind the old cut becomes visible: `take (n + 1) = take n ++ [n]?`
      rw [List.singleton_append, List.take_succ_cons, applyAll_popFront_cons _ rfl, List.tail_cons, Nat.add_sub_cancel, List.take_add_one]
      exact applyAll_getPush_back w n (w.take n)
  | popBack =>
    cases ha; dsimp only
    by_cases hf : v.length > n + 1
    · rw [if_pos hf, take_dropLast_of_lt v hf]; rfl
    · have hle : v.length ≤ n + 1 := Nat.le_of_not_lt hf
      rw [if_neg hf]
      exact applyAll_forward hv rfl (List.take_of_length_le hle)
        (List.take_of_length_le (Nat.le_trans (List.dropLast_sublist v).length_le hle))
  | set i x =>
    obtain ⟨hi, rfl⟩ := Diff.set_apply_eq_some_iff.mp ha; dsimp only
    by_cases hc : i ≥ n + 1
    · rw [if_pos hc, List.take_set_of_le hc]; rfl
    · have hlt : i < (v.take (n + 1)).length := by rw [List.length_take]; omega
      rw [if_neg hc, applyAll_set_cons _ _ hlt, List.take_set]; rfl
  | truncate m =>
    cases ha; dsimp only
    by_cases hc : m ≥ n + 1
    · rw [if_pos hc, List.take_take, Nat.min_eq_left hc]; rfl
    · -- the two cuts commute
      rw [if_neg hc, List.take_take, Nat.min_comm, ← List.take_take]; rfl
  | insert i x =>
    obtain ⟨hi, rfl⟩ := Diff.insert_apply_eq_some_iff.mp ha; dsimp only
    by_cases hc : i ≥ n + 1
    · rw [if_pos hc, take_insert_of_le v x hc hi]; rfl
    · rw [if_neg hc]
      by_cases hf : v.length ≥ n + 1
      · -- last visible item goes, then insert into `take n`
        have hle : i ≤ (v.take n).length := by rw [List.length_take]; omega
        simp only [hf, decide_true, if_true, List.singleton_append]
        rw [applyAll_popBack_take _ v hf, applyAll_insert_cons _ _ hle, take_insert_of_ge v x (by omega) hi]; rfl
      · simp only [hf, decide_false, Bool.false_eq_true, if_false, List.nil_append]
        exact applyAll_forward hv ha (List.take_of_length_le (Nat.le_of_not_le hf)) (List.take_of_length_le (by
          rw [length_insert x hi]; exact Nat.lt_of_not_le hf))
  | remove i =>
    obtain ⟨hi, rfl⟩ := Diff.remove_apply_eq_some_iff.mp ha; dsimp only
    by_cases hc : i ≥ n + 1
    · rw [if_pos hc, take_eraseIdx_of_le v hc hi]; rfl
    · -- as for `popFront`
      have hlt : i < (v.take (n + 1)).length := by rw [List.length_take]; omega
      rw [if_neg hc, List.singleton_append, applyAll_remove_cons _ hlt, Nat.add_sub_cancel, List.take_add_one (l := v.eraseIdx i),
        take_eraseIdx_of_ge v (by omega) hi]
      exact applyAll_getPush_back _ n _

theorem head_update_limit {α} (v : List α) (old new : Nat) :
    applyAll (Head.updateLimit old new v) (v.take old) = some (v.take new) := by
  unfold Head.updateLimit
  by_cases he : v.isEmpty = true
  · rw [if_pos he, List.isEmpty_iff.mp he, List.take_nil, List.take_nil]; rfl
  · rw [if_neg he]
    by_cases h1 : old < new
    · have key : v.take new = v.take old ++ (v.drop old).take (new - old) := by
        rw [← List.take_add, Nat.add_sub_cancel' (Nat.le_of_lt h1)]
      rw [if_pos h1, key]; dsimp only
      by_cases hm : ((v.drop old).take (new - old)).isEmpty = true
      · rw [if_pos hm, List.isEmpty_iff.mp hm, List.append_nil]; rfl
      · rw [if_neg hm]; rfl
    · rw [if_neg h1]
      by_cases h2 : old > new
      · rw [if_pos h2]
        by_cases h3 : v.length ≤ new
        · rw [if_pos h3, List.take_of_length_le h3, List.take_of_length_le (by omega)]; rfl
        · rw [if_neg h3, applyAll_truncate_cons, List.take_take, Nat.min_eq_left (Nat.le_of_lt h2)]; rfl
      · have e : old = new := by omega
        rw [if_neg h2, e]; rfl

theorem head_initial {α} (v : List α) (L : Nat) : Head.initial v L = v.take L := by
  simp only [Head.initial]; split
  · rfl
  · rw [List.take_of_length_le (by omega)]

/-- Tail: the rewritten diffs take the old view `lastN L` to the new view `lastN L` (after the repair of D1). -/
theorem tail_handle_diff {α} (d : Diff α) (v v' : List α) (L : Nat)
    (hv : d.validOn v = true) (ha : d.apply v = some v') :
    applyAll (Tail.handleDiff d L v.length v') (lastN L v) = some (lastN L v') := by
  by_cases hL : L = 0
  · -- limit 0: nothing emitted (`rfl`), both views `drop length = []`
    subst hL; unfold lastN
    rw [Nat.sub_zero, Nat.sub_zero, List.drop_length, List.drop_length]; rfl
  · -- The view is `v.drop (v.length - L)`: the cut moves with the source's length. Head's situations, mirrored: diff in
    -- the hidden part (only the cut moves, by one: `e : … - L = … - L ± 1` in the form the rewrite needs); source shorter
    -- than the limit (forwarded); view full and diff inside it (same edit relative to the cut; the first visible item
    -- goes or the last hidden one comes in).
    unfold Tail.handleDiff lastN
    rw [if_neg hL]
    cases d with
    | clear => cases ha; rw [List.drop_nil]; rfl
    | reset vs => cases ha; dsimp only; rw [truncateFromEnd_eq]; rfl
    | pushFront x =>
      cases ha; dsimp only
      by_cases hf : v.length ≥ L
      · have e : (x :: v).length - L = v.length - L + 1 := Nat.sub_add_comm hf
        simp only [hf, decide_true, if_true, applyAll_nil, e, List.drop_succ_cons]
      · simp only [hf, decide_false, Bool.false_eq_true, if_false]
        exact applyAll_forward hv rfl (lastN_of_le (Nat.le_of_not_le hf)) (lastN_of_le (Nat.lt_of_not_le hf))
    | pushBack x =>
      cases ha; dsimp only
      by_cases hf : v.length ≥ L
      · -- first visible item goes, cut moves right
        have e : (v ++ [x]).length - L = v.length - L + 1 := by rw [List.length_append]; exact Nat.sub_add_comm hf
        simp only [hf, decide_true, if_true, List.singleton_append]
        rw [applyAll_popFront_cons _ (isEmpty_drop_of_lt (by omega)), e, List.tail_drop, List.drop_append_of_le_length (by omega)]; rfl
      · simp only [hf, decide_false, Bool.false_eq_true, if_false, List.nil_append]
        exact applyAll_forward hv rfl (lastN_of_le (Nat.le_of_not_le hf))
          (lastN_of_le (by rw [List.length_append]; exact Nat.lt_of_not_le hf))
    | popFront =>
      cases ha; dsimp only
      by_cases hf : v.length > L
      · have e : v.length - L = v.tail.length - L + 1 := by rw [List.length_tail]; omega
        rw [if_pos hf, e, List.drop_tail]; rfl
      · have hle : v.length ≤ L := Nat.le_of_not_lt hf
        rw [if_neg hf]
        exact applyAll_forward hv rfl (lastN_of_le hle) (lastN_of_le (Nat.le_trans (List.tail_sublist v).length_le hle))
    | popBack =>
      cases ha; dsimp only
      have hpos : 0 < v.length := List.length_pos_iff.mpr (by intro h; subst h; cases hv)
      rw [List.singleton_append, applyAll_popBack_cons _ (isEmpty_drop_of_lt (by omega)), ← drop_dropLast]
      by_cases hf : v.length > L
      · -- the item before the old cut becomes visible: `drop (a - 1) = [a - 1]? ++ drop a`
        have e : v.dropLast.length - L = v.length - L - 1 := by rw [List.length_dropLast]; exact Nat.sub_right_comm ..
        rw [if_pos hf, applyAll_getPush_front, e, List.drop_sub_one (by omega)]
      · have e : v.dropLast.length - L = v.length - L := by rw [List.length_dropLast]; omega
        rw [if_neg hf, e]; rfl
    | set i x =>
      obtain ⟨hi, rfl⟩ := Diff.set_apply_eq_some_iff.mp ha; dsimp only
      rw [List.length_set]
      by_cases hc : i ≥ v.length - L
      · rw [if_pos hc, applyAll_set_cons _ _ (sub_lt_length_drop hc hi), List.set_drop, Nat.add_sub_cancel' hc]; rfl
      · rw [if_neg hc, List.drop_set_of_lt (Nat.lt_of_not_le hc)]; rfl
    | insert i x =>
      obtain ⟨hi, rfl⟩ := Diff.insert_apply_eq_some_iff.mp ha; dsimp only
      have hlen := length_insert x hi
      by_cases hf : v.length ≥ L
      · -- new cut = old cut + 1
        rw [hlen, Nat.sub_add_comm hf]
        by_cases hc : i > v.length - L
        · -- first visible item goes, insert relative to the new cut
          simp only [hc, or_true, hf, decide_true, if_true, List.singleton_append, Nat.sub_sub]
          rw [applyAll_popFront_cons _ (isEmpty_drop_of_lt (by omega)), List.tail_drop,
            applyAll_insert_cons _ _ (sub_le_length_drop _ hi), drop_insert_of_le v x hc hi]; rfl
        · rw [if_neg (by omega), drop_insert_of_ge v x (Nat.le_of_not_lt hc) hi]; rfl
      · have hlt : v.length < L := Nat.lt_of_not_le hf
        simp only [hlt, true_or, hf, decide_false, Bool.false_eq_true, if_true, if_false, List.nil_append]
        exact applyAll_forward hv ha (lastN_of_le (Nat.le_of_lt hlt)) (lastN_of_le (hlen ▸ hlt))
    | remove i =>
      obtain ⟨hi, rfl⟩ := Diff.remove_apply_eq_some_iff.mp ha; dsimp only
      rw [List.length_eraseIdx_of_lt hi]
      by_cases hc : i ≥ v.length - L
      · rw [if_pos hc, List.singleton_append, applyAll_remove_cons _ (sub_lt_length_drop hc hi), ← drop_eraseIdx_of_le v hc hi]
        by_cases h0 : i - (v.length - L) ≠ i
        · -- as `popBack`, if an item is hidden
          have e : v.length - 1 - L = v.length - L - 1 := Nat.sub_right_comm ..
          rw [if_pos h0, applyAll_getPush_front, e,
            List.drop_sub_one (Nat.pos_of_ne_zero fun h => h0 (by rw [h, Nat.sub_zero]))]
        · have e : v.length - 1 - L = v.length - L := by omega
          rw [if_neg h0, e]; rfl
      · have e : v.length - 1 - L + 1 = v.length - L := by
          rw [Nat.sub_right_comm, Nat.sub_add_cancel (Nat.zero_lt_of_lt (Nat.lt_of_not_le hc))]
        rw [if_neg hc, drop_eraseIdx_of_ge v (by omega) hi, e]; rfl
    | append vs =>
      cases ha; dsimp only
      rw [truncateFromEnd_eq, lastN_length, applyAll_append, applyAll_popFronts _ _ (by rw [List.length_drop]; omega)]
      simp only [Option.bind_some, applyAll_append_cons, applyAll_nil, List.drop_drop, List.length_append,
        List.drop_append, lastN]
      rw [Nat.sub_right_comm (v.length + vs.length), Nat.add_sub_cancel_left]
      by_cases hvs : L ≤ vs.length
      · -- the new items fill the view: all of `v` goes
        rw [Nat.min_eq_left hvs, Nat.add_sub_cancel, List.drop_of_length_le (l := v) (by omega), List.drop_of_length_le (l := v) (by omega)]
      · -- pops and growth move the cut to the same place
        rw [Nat.min_eq_right (Nat.le_of_not_le hvs), show v.length - L + min vs.length (v.length + vs.length - L) = v.length + vs.length - L by omega]
    | truncate n =>
      have hn : n < v.length := of_decide_eq_true hv
      cases ha; dsimp only
      rw [applyAll_append, applyAll_popBacks _ _ (by rw [List.length_drop]; omega)]
      simp only [Option.bind_some, applyAll_pushFronts]
      congr 1
      have hlen : (v.take n).length = n := List.length_take_of_le (Nat.le_of_lt hn)
      -- pushed: a segment of the new source `v.take n` (`reverse_take_drop_reverse`); kept: a segment of `v` (`List.take_drop`)
      rw [reverse_take_drop_reverse, hlen, List.length_drop, List.take_drop]
      by_cases hr : L ≤ v.length - n
      · -- whole view goes: `L` pops, nothing kept, the new source's last `L` items pushed
        have e : v.length - (v.length - L) - L = 0 := by omega
        rw [Nat.min_eq_left hr, Nat.sub_self, Nat.sub_zero, e, Nat.add_zero, List.drop_take_self, List.append_nil,
          List.take_take, Nat.min_self]
      · -- last `m = v.length - n < L` items go; kept: the new source from the old cut on; pushed: the segment before it
        have hm : v.length - n ≤ L := Nat.le_of_not_le hr
        have hcut : v.length - L ≤ n := Nat.sub_le_iff_le_add.mpr (Nat.add_comm L n ▸ Nat.sub_le_iff_le_add.mp hm)
        -- `n = v.length - m`: kept ends at `n`; `(v.length - m) - (L - m) = v.length - L`: pushed ends at the old cut
        have hcut' : n - (L - (v.length - n)) = v.length - L :=
          (congrArg (· - _) (Nat.sub_sub_self (Nat.le_of_lt hn))).symm.trans (Nat.sub_sub_sub_cancel_right hm)
        rw [Nat.min_eq_right hm, Nat.sub_sub n, Nat.sub_add_cancel hm, Nat.sub_right_comm v.length,
          Nat.sub_sub_self (Nat.le_of_lt hn), Nat.add_sub_of_le hcut, hcut']
        exact drop_take_append_drop (v.take n) (Nat.sub_le_sub_right (Nat.le_of_lt hn) L)

theorem tail_update_limit_partial {α} (v : List α) (old new : Nat)
    (h : ¬ (old > v.length ∧ 0 < new ∧ new < v.length)) :
    applyAll (Tail.updateLimit old new v) (lastN old v) = some (lastN new v) := by
  unfold Tail.updateLimit lastN
  by_cases he : v.isEmpty = true
  · rw [if_pos he, List.isEmpty_iff.mp he, List.drop_nil, List.drop_nil]; rfl
  · rw [if_neg he]
    by_cases h1 : old < new
    · rw [if_pos h1]; dsimp only
      by_cases hm : ((v.reverse.drop old).take (new - old)).isEmpty = true
      · -- nothing missing: the old limit covers the whole vector, both views are `v`
        have hle : v.length ≤ old := (isEmpty_take_drop_reverse.mp hm).resolve_left (Nat.sub_ne_zero_of_lt h1)
        rw [if_pos hm, Nat.sub_eq_zero_of_le hle, Nat.sub_eq_zero_of_le (Nat.le_trans hle (Nat.le_of_lt h1))]; rfl
      · rw [if_neg hm]
        by_cases h0 : old = 0
        · -- old view empty: the last `new` items appended
          subst h0
          rw [if_pos rfl, applyAll_single, reverse_take_drop_reverse, Nat.sub_zero, Nat.sub_zero, List.drop_length,
            List.take_length]
          rfl
        · -- the `new - old` items before the old cut are pushed
          rw [if_neg h0, applyAll_pushFronts, reverse_take_drop_reverse, drop_take_append_drop v (Nat.sub_le _ _),
            Nat.sub_sub, Nat.add_sub_cancel' (Nat.le_of_lt h1)]
    · rw [if_neg h1]
      by_cases h2 : old > new
      · rw [if_pos h2]
        by_cases h3 : v.length ≤ new
        · rw [if_pos h3, Nat.sub_eq_zero_of_le h3, Nat.sub_eq_zero_of_le (Nat.le_trans h3 (Nat.le_of_lt h2))]; rfl
        · rw [if_neg h3]
          by_cases h4 : new = 0
          · subst h4
            rw [if_pos rfl, Nat.sub_zero, List.drop_length]; rfl
          · -- `h` used here: `0 < new < v.length`, so `old ≤ v.length` and `old - new` pops are possible (else the model pops
            -- too much: finding D2)
            have hol : old ≤ v.length :=
              Nat.le_of_not_lt fun hgt => h ⟨hgt, Nat.pos_of_ne_zero h4, Nat.lt_of_not_le h3⟩
            rw [if_neg h4, applyAll_popFronts _ _ (by rw [List.length_drop, Nat.sub_sub_self hol]; exact Nat.sub_le _ _),
              List.drop_drop, Nat.sub_add_sub_cancel hol (Nat.le_of_lt h2)]
      · have e : old = new := Nat.le_antisymm (Nat.le_of_not_lt h2) (Nat.le_of_not_lt h1)
        rw [if_neg h2, e]; rfl

def tail_update_limit_full : Prop :=
  ∀ (v : List Nat) (old new : Nat), applyAll (Tail.updateLimit old new v) (lastN old v) = some (lastN new v)

/-- known finding D2: shrinking from a limit larger than the vector pops too much -/
theorem tail_update_limit_counterexample : ¬ tail_update_limit_full := by
  intro h
  have := h [1, 2, 3] 10 2
  revert this
  decide

theorem tail_initial {α} (v : List α) (L : Nat) : Tail.initial v L = lastN L v := by
  simp only [Tail.initial, truncateFromEnd_eq]
  split
  · rfl
  · rename_i h; exact (lastN_of_le (Nat.le_of_not_lt h)).symm

/-- also the characterisation of `skeep` that the arms below and the chain rewrite with -/
theorem skip_initial {α} (v : List α) (c : Nat) : skeep v c = v.drop c := by
  unfold skeep
  split
  · next h => rw [h, List.drop_zero]
  · split
    · next h => rw [List.drop_of_length_le h]
    · rfl

/-- Skip: the rewritten diffs take the old view `drop c` to the new view `drop c`. -/
theorem skip_handle_diff {α} (d : Diff α) (v v' : List α) (c : Nat)
    (hv : d.validOn v = true) (ha : d.apply v = some v') :
    applyAll (Skip.handleDiff d c v.length v') (v.drop c) = some (v'.drop c) := by
  -- The cut `c` is fixed. Diff at or behind it: same edit relative to the cut; before it: the view sees only what is pushed
  -- over the cut or pulled back; neither source longer than `c`: both views `[]`, handler silent (`skip_silent`).
  unfold Skip.handleDiff
  cases d with
  | clear => cases ha; rw [List.drop_nil]; rfl
  | reset vs => cases ha; dsimp only; rw [skip_initial]; rfl
  | append vs =>
    cases ha; dsimp only
    by_cases hf : (v ++ vs).length > c
    · rw [if_pos hf, applyAll_single, List.drop_append]
      by_cases hlt : v.length < c
      · -- cut in the new items: skip the rest of the count in `vs`
        rw [if_pos hlt, skip_initial]; rfl
      · -- cut in `v`: all new items visible
        rw [if_neg hlt, Nat.sub_eq_zero_of_le (Nat.le_of_not_lt hlt), List.drop_zero]; rfl
    · have hle : v.length + vs.length ≤ c := by rw [← List.length_append]; exact Nat.le_of_not_lt hf
      rw [if_neg hf]; exact skip_silent (Nat.le_trans (Nat.le_add_right _ _) hle) (Nat.le_of_not_lt hf)
  | pushFront x =>
    cases ha; dsimp only
    by_cases hf : v.length ≥ c
    · rw [if_pos hf]
      by_cases h0 : c = 0
      · subst h0; rfl   -- nothing is skipped: the view is the source
      · -- the item that crosses the cut comes out: `drop c = [c]? ++ drop (c + 1)`
        rw [if_neg h0, applyAll_getPush_front, ← List.drop_succ_cons (a := x), ← List.drop_eq_getElem?_toList_append]
    · have hlt : v.length < c := Nat.lt_of_not_le hf
      rw [if_neg hf]; exact skip_silent (Nat.le_of_lt hlt) hlt
  | pushBack x =>
    cases ha; dsimp only
    by_cases hf : v.length ≥ c
    · rw [if_pos hf, List.drop_append_of_le_length hf]; rfl
    · have hlt : v.length < c := Nat.lt_of_not_le hf
      rw [if_neg hf]; exact skip_silent (Nat.le_of_lt hlt) (by rw [List.length_append]; exact hlt)
  | popFront =>
    cases ha; dsimp only
    by_cases hf : v.length > c
    · -- cut `c` of `v.tail` = cut `c + 1` of `v`
      rw [if_pos hf, applyAll_popFront_cons _ (isEmpty_drop_of_lt hf), List.tail_drop, List.drop_tail]; rfl
    · have hle : v.length ≤ c := Nat.le_of_not_lt hf
      rw [if_neg hf]; exact skip_silent hle (Nat.le_trans (List.tail_sublist v).length_le hle)
  | popBack =>
    cases ha; dsimp only
    by_cases hf : v.length > c
    · rw [if_pos hf, applyAll_popBack_cons _ (isEmpty_drop_of_lt hf), drop_dropLast]; rfl
    · have hle : v.length ≤ c := Nat.le_of_not_lt hf
      rw [if_neg hf]; exact skip_silent hle (Nat.le_trans (List.dropLast_sublist v).length_le hle)
  | set i x =>
    obtain ⟨hi, rfl⟩ := Diff.set_apply_eq_some_iff.mp ha; dsimp only
    by_cases hc : i ≥ c
    · rw [if_pos hc, applyAll_set_cons _ _ (sub_lt_length_drop hc hi), List.set_drop, Nat.add_sub_cancel' hc]; rfl
    · rw [if_neg hc, List.drop_set_of_lt (Nat.lt_of_not_le hc)]; rfl
  | insert i x =>
    obtain ⟨hi, rfl⟩ := Diff.insert_apply_eq_some_iff.mp ha; dsimp only
    by_cases hf : v.length ≥ c
    · rw [if_pos hf]
      by_cases hc : c > 0 ∧ i < c
      · -- before the cut: items from `i` on move right, the one that crosses comes out
        rw [if_pos hc, applyAll_getPush_front, ← drop_insert_of_ge v x (Nat.le_of_lt hc.2) hi, ← List.drop_eq_getElem?_toList_append]
      · have hle : c ≤ i := Nat.le_of_not_lt fun h => hc ⟨Nat.zero_lt_of_lt h, h⟩
        rw [if_neg hc, applyAll_insert_cons _ _ (sub_le_length_drop c hi), drop_insert_of_le v x hle hi]; rfl
    · have hlt : v.length < c := Nat.lt_of_not_le hf
      rw [if_neg hf]; exact skip_silent (Nat.le_of_lt hlt) (by rw [length_insert x hi]; exact hlt)
  | remove i =>
    obtain ⟨hi, rfl⟩ := Diff.remove_apply_eq_some_iff.mp ha; dsimp only
    by_cases hf : v.length > c
    · rw [if_pos hf]
      by_cases hc : i < c
      · -- before the cut: items behind `i` move left, the first visible one goes
        rw [if_pos hc, applyAll_popFront_cons _ (isEmpty_drop_of_lt hf), List.tail_drop, drop_eraseIdx_of_ge v (Nat.le_of_lt hc) hi]; rfl
      · have hle : c ≤ i := Nat.le_of_not_lt hc
        rw [if_neg hc, applyAll_remove_cons _ (sub_lt_length_drop hle hi), drop_eraseIdx_of_le v hle hi]; rfl
    · have hle : v.length ≤ c := Nat.le_of_not_lt hf
      rw [if_neg hf]; exact skip_silent hle (Nat.le_trans (List.eraseIdx_sublist v i).length_le hle)
  | truncate n =>
    cases ha; dsimp only
    by_cases hf : v.length > c
    · rw [if_pos hf]
      by_cases hc : n > c
      · rw [if_pos hc, List.drop_take]; rfl
      · rw [if_neg hc, List.drop_of_length_le (Nat.le_trans (List.length_take_le n v) (Nat.le_of_not_lt hc))]; rfl
    · have hle : v.length ≤ c := Nat.le_of_not_lt hf
      rw [if_neg hf]; exact skip_silent hle (Nat.le_trans (List.take_sublist n v).length_le hle)

/-- `none`: `Skip::dynamic` before its first count shows nothing -/
def Skip.viewOf {α} (count : Option Nat) (v : List α) : List α :=
  match count with
  | none => []
  | some c => v.drop c

theorem skip_update_count {α} (v : List α) (old : Option Nat) (new : Nat) :
    applyAll (Skip.updateCount old new v) (Skip.viewOf old v) = some (v.drop new) := by
  unfold Skip.updateCount Skip.viewOf
  by_cases he : v.isEmpty = true
  · rw [if_pos he, List.isEmpty_iff.mp he, List.drop_nil]
    cases old with
    | none => rfl
    | some o => dsimp only; rw [List.drop_nil]; rfl
  · rw [if_neg he]
    cases old with
    | none => dsimp only; rw [applyAll_single, skip_initial]; rfl
    | some o =>
      dsimp only
      -- the model clamps both counts to the length; the views do not see it (`drop_eq_drop_iff` compares clamped counts)
      have clamp : ∀ k, v.drop k = v.drop (min k v.length) := fun k =>
        List.drop_eq_drop_iff.mpr (by rw [Nat.min_assoc, Nat.min_self])
      have ho := Nat.min_le_right o v.length
      have hn := Nat.min_le_right new v.length
      rw [clamp o, clamp new]
      generalize min o v.length = o' at ho ⊢
      generalize min new v.length = n' at hn ⊢
      by_cases hgrow : o' < n'
      · rw [if_pos hgrow]
        by_cases hall : v.length ≤ n'
        · rw [if_pos hall, List.drop_of_length_le hall]; rfl
        · rw [if_neg hall, applyAll_popFronts _ _ (by rw [List.length_drop]; exact Nat.sub_le_sub_right hn o'),
            List.drop_drop, Nat.add_sub_cancel' (Nat.le_of_lt hgrow)]
      · rw [if_neg hgrow]
        by_cases hshrink : o' > n'
        · rw [if_pos hshrink]
          by_cases hallnone : o' = v.length ∧ n' = 0
          · -- from all skipped to none: the whole vector appended to the empty view
            rw [if_pos hallnone, hallnone.1, hallnone.2, List.drop_length, List.drop_zero]; rfl
          · rw [if_neg hallnone]
            by_cases hm : ((v.reverse.drop (v.length - o')).take (o' - n')).isEmpty = true
            · -- impossible: `o' - n' > 0` and `o' > 0` items lie in front of the old cut
              exfalso
              have hpos : 0 < o' := Nat.zero_lt_of_lt hshrink
              exact (isEmpty_take_drop_reverse.mp hm).elim (Nat.sub_ne_zero_of_lt hshrink) (Nat.not_le_of_lt (Nat.sub_lt (Nat.lt_of_lt_of_le hpos ho) hpos))
            · -- the segment `[n', o')` before the old cut is pushed
              rw [if_neg hm, applyAll_pushFronts, reverse_take_drop_reverse, Nat.sub_sub_self ho,
                drop_take_append_drop v (Nat.sub_le _ _), Nat.sub_sub_self (Nat.le_of_lt hshrink)]
        · have e : o' = n' := Nat.le_antisymm (Nat.le_of_not_lt hshrink) (Nat.le_of_not_lt hgrow)
          rw [if_neg hshrink, e]; rfl


-- non-vacuity: hypotheses are met by concrete non-trivial instances
example : (Diff.insert 1 11 : Diff Nat).validOn [10] = true ∧
    applyAll (Tail.handleDiff (.insert 1 11) 2 1 [10, 11]) (lastN 2 [10]) = some [10, 11] := by decide
example : applyAll (Head.handleDiff (Diff.popFront : Diff Nat) 2 3 [11, 12]) ([10, 11, 12].take 2) = some [11, 12] := by decide
example : applyAll (Skip.handleDiff (Diff.insert 0 9 : Diff Nat) 2 3 [9, 1, 2, 3]) ([1, 2, 3].drop 2) = some [2, 3] := by decide

end EV
