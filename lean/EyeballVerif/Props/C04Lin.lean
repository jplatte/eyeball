/-
  C04 — linearizability of the lock-level model, stated outright.

  The abstract specification is a single cell `(value, version)` on which every call acts atomically
  (`AS.apply`). Every call of the lock-level model has one segment — its *linearization point*, lying between its
  invocation and its response because it is one of the call's own segments — at which the abstraction of the
  concrete state (`CS.abs`) makes exactly the abstract call's transition and at which the result the call is going
  to return (`Th.pendingRes`) becomes the abstract call's result; every other segment of every thread leaves the
  abstraction and every determined result untouched. Along any schedule the concrete execution is therefore the
  abstract execution of the calls in the order of their linearization points.
-/
import EyeballVerif.Lemmas.ConcInv
namespace EV

structure AS where
  value : Nat
  version : Nat
  deriving DecidableEq, Repr

/-- atomic calls of the specification (`close` = the drop of the last owner) -/
inductive ACall where
  | set (v : Nat) | sne (v : Nat) | update (k : Nat) | get | nextNow | poll | close
  deriving DecidableEq, Repr

/-- the specification: new cell, result, new observed version of the calling subscriber -/
def AS.apply (a : AS) (c : ACall) (observed : Nat) : AS × CRes × Nat :=
  match c with
  | .set v => ({ value := v, version := a.version + 1 }, .prev a.value, observed)
  | .sne v =>
    if a.value = v then (a, .optPrev none, observed)
    else ({ value := v, version := a.version + 1 }, .optPrev (some a.value), observed)
  | .update k => ({ value := a.value + k, version := a.version + 1 }, .none, observed)
  | .get => (a, .value a.value, observed)
  | .nextNow => (a, .value a.value, a.version)
  | .poll =>
    if a.version = 0 then (a, .poll .done, observed)
    else if observed < a.version then (a, .poll (.ready a.value), a.version)
    else (a, .poll .pending, observed)
  | .close => ({ a with version := 0 }, .none, observed)

/-- a `set` / storing `set_if_not_eq` that has replaced the value but not yet bumped the version -/
def CS.pendingBump (s : CS) : Bool :=
  match s.writer with
  | some t => (match (s.thAt t).pc with | .writeBeforeNotify _ => true | _ => false)
  | none => false

/-- abstraction: the value, and the version counting the bump a writer inside its critical section still owes -/
def CS.abs (s : CS) : AS :=
  { value := s.value, version := if s.pendingBump then s.version + 1 else s.version }

/-- the linearization point: which abstract call the next segment of thread `t` performs, if any -/
def CS.linOf (s : CS) (t : Nat) : Option ACall :=
  match s.ths[t]? with
  | none => none
  | some th =>
    match th.op, th.pc with
    | .set v, .start => some (.set v)
    | .sne v, .start => some (.sne v)
    | .update k, .start => some (.update k)
    | .get, .start => some .get
    | .nextNow, .start => some .nextNow
    | .poll, .pollHoldingMeta => some .poll
    | .dropClone, .closeHoldingMeta => some .close
    | _, _ => none

-- results are claimed only for these calls: a non-last `drop` and an `upgrade` get a `pendingRes` without passing a
-- linearization point
/-- the calls that act on the cell (the others, `drop` and `upgrade`, act on the ownership counts: C03) -/
def COp.isCell : COp → Bool
  | .dropClone | .upgrade => false
  | _ => true

-- (`dropClone` at `dropAfterDecision true`: the last drop, past its point `close`, whose abstract result is `none`)
/-- the result a call is going to return, once its linearization point has passed -/
def Th.pendingRes (th : Th) : Option CRes :=
  match th.op, th.pc with
  | .set _, .writeBeforeNotify p | .set _, .writeAfterNotify p => some (.prev p)
  | .sne _, .writeBeforeNotify p | .sne _, .writeAfterNotify p => some (.optPrev (some p))
  | .update _, .writeAfterNotify _ => some .none
  | .poll, .pollAfterCheck r => some (.poll r)
  | .dropClone, .dropAfterDecision true => some .none
  | _, .finished => some th.res
  | _, _ => none

/-- a writer between "value replaced" and "version bumped" -/
def Pc.owesBump : Pc → Bool
  | .writeBeforeNotify _ => true
  | _ => false

theorem CS.pendingBump_eq (s : CS) :
    s.pendingBump = match s.writer with
      | some w => (s.thAt w).pc.owesBump
      | none => false := by
  unfold CS.pendingBump
  cases s.writer with
  | none => rfl
  | some w => simp only; cases (s.thAt w).pc <;> rfl

/-- The bump the abstraction adds is owed by the holder of the write lock: read off `t` when `t` is the writer, nil while
    `t` reads or nobody writes (the next two lemmas). -/
theorem WInv.pendingBump_of_writer {s : CS} {t : Nat} (hi : WInv s) (ht : t < s.ths.length)
    (h : (s.thAt t).pc.holdsWrite = true) : s.pendingBump = (s.thAt t).pc.owesBump := by
  simp only [s.pendingBump_eq, (hi.writer_iff t).mpr ⟨ht, h⟩]

theorem pendingBump_of_no_writer {s : CS} (h : s.writer = none) : s.pendingBump = false := by
  rw [s.pendingBump_eq, h]

theorem WInv.pendingBump_of_reader {s : CS} {t : Nat} (hi : WInv s) (ht : t < s.ths.length)
    (h : (s.thAt t).pc.holdsRead = true) : s.pendingBump = false :=
  pendingBump_of_no_writer (hi.no_writer_of_reader ((hi.readers_iff t).mpr ⟨ht, h⟩))

/-- After a step of `t`: read off `t` if it is the writer then, nil if it has just given the write lock up, else unchanged. -/
theorem pendingBump_seg {s s' : CS} {t : Nat} (hi : WInv s) (ht : t < s.ths.length)
    (g : Seg s t (s.thAt t) (s'.thAt t) s') :
    s'.pendingBump = if (s'.thAt t).pc.holdsWrite then (s'.thAt t).pc.owesBump
      else if (s.thAt t).pc.holdsWrite then false else s.pendingBump := by
  have hw := hi.writer_iff t
  simp only [ht, true_and] at hw
  rw [s'.pendingBump_eq, g.writer]; unfold ownUpd
  -- holding the write lock before / after: `simp` leaves (no, no) and (yes, yes)
  cases hbefore : (s.thAt t).pc.holdsWrite <;> cases hafter : (s'.thAt t).pc.holdsWrite <;> simp
  · -- neither taken nor given up: the holder, if any, is another thread, which stays where it is
    rw [s.pendingBump_eq]
    cases hs : s.writer with
    | none => rfl
    | some w =>
      have hwt : w ≠ t := fun e => by subst e; simp [hw.mp hs] at hbefore
      simp only [g.frame hwt (·.pc) fun _ => rfl]
  · -- `t` keeps the write lock
    rw [hw.mpr hbefore]

/-- **One step of any thread, any state satisfying the invariant.** If the segment is the thread's linearization
    point, the abstraction makes exactly the abstract call's transition, the result the call will return becomes
    the abstract result and its observed version the abstract one; otherwise the abstraction and the thread's
    observed version stay as they are and the result of a call on the cell stays what it is (a subscriber task starting
    its next poll forgets the previous result). No step touches what another thread has observed or is going to
    return. -/
theorem c04_lin_step (s s' : CS) (t : Nat) (hi : WInv s) (h : s.adv t = some s') :
    (match s.linOf t with
     | some c =>
        s'.abs = (s.abs.apply c (s.thAt t).observed).1 ∧
        (s'.thAt t).pendingRes = some (s.abs.apply c (s.thAt t).observed).2.1 ∧
        (s'.thAt t).observed = (s.abs.apply c (s.thAt t).observed).2.2
     | none =>
        s'.abs = s.abs ∧ (s'.thAt t).observed = (s.thAt t).observed ∧
        ((s.thAt t).op.isCell = true →
          (s'.thAt t).pendingRes = (s.thAt t).pendingRes ∨
          ((s.thAt t).pc = .finished ∧ (s'.thAt t).pendingRes = none))) ∧
    (∀ u, u ≠ t → (s'.thAt u).pendingRes = (s.thAt u).pendingRes ∧ (s'.thAt u).observed = (s.thAt u).observed) := by
  obtain ⟨ht, g⟩ := adv_seg s s' t h
  refine ⟨?_, fun u hu => ⟨g.frame hu Th.pendingRes fun _ => rfl, g.frame hu (·.observed) fun _ => rfl⟩⟩
  have hwriter := hi.pendingBump_of_writer ht
  have hnowriter := pendingBump_of_no_writer (s := s)
  have hreader := hi.pendingBump_of_reader ht
  have hth := getElem?_thAt ht
  simp only [CS.linOf, hth, CS.abs, pendingBump_seg hi ht g]
  clear g  -- left in, every `simp … at *` below would go through it, in every case
  generalize s.thAt t = th at *
  unfold CS.adv at h
  simp only [hth] at h
  obtain ⟨op, pc, obs, wkn, res⟩ := th
  dsimp only at h hwriter hreader ⊢
  adv_arms h
  all_goals (try simp only [Bool.or_eq_true, not_or, Bool.not_eq_true, Option.isSome_eq_false_iff, Option.isNone_iff_eq_none,
    Bool.not_eq_eq_eq_not, Bool.not_true, Bool.not_eq_false, List.isEmpty_iff, beq_iff_eq] at *)
  all_goals simp only [CS.thAt, List.getElem?_set_self, ht, wakeAll_length, Option.getD_some, Pc.holdsRead, Pc.holdsWrite,
    Pc.owesBump] at hwriter hreader ⊢
  all_goals simp [*, AS.apply, Th.pendingRes, COp.isCell]

/-- the abstract history of a schedule: the calls in the order of their linearization points, each with the thread
    that makes it (a step that is not enabled is skipped — the thread is blocked) -/
def CS.linHist (s : CS) : List Nat → List (Nat × ACall)
  | [] => []
  | t :: ts =>
    match s.adv t with
    | none => s.linHist ts
    | some s' =>
      match s.linOf t with
      | some c => (t, c) :: s'.linHist ts
      | none => s'.linHist ts

/-- the specification run: the cell, what every subscriber has observed, and the results in order -/
def AS.runCalls (a : AS) (obs : Nat → Nat) : List (Nat × ACall) → AS × (Nat → Nat) × List (Nat × CRes)
  | [] => (a, obs, [])
  | (t, c) :: l =>
    let r := a.apply c (obs t)
    let rest := AS.runCalls r.1 (fun u => if u = t then r.2.2 else obs u) l
    (rest.1, rest.2.1, (t, r.2.1) :: rest.2.2)

/-- the result of thread `u`'s last call in a list of results -/
def lastRes (l : List (Nat × CRes)) (u : Nat) : Option CRes :=
  ((l.filter fun p => p.1 = u).getLast?).map (·.2)

theorem lastRes_cons (p : Nat × CRes) (l : List (Nat × CRes)) (u : Nat) :
    lastRes (p :: l) u = (lastRes l u).or (if p.1 = u then some p.2 else none) := by
  simp only [lastRes, List.filter_cons, decide_eq_true_eq]
  split
  · rw [List.getLast?_cons]; cases (l.filter fun p => decide (p.1 = u)).getLast? <;> rfl
  · cases (l.filter fun p => decide (p.1 = u)).getLast? <;> rfl

def CS.obsOf (s : CS) : Nat → Nat := fun u => (s.thAt u).observed

/-- **Linearizability along every schedule.** From any state satisfying the invariant (every reachable one, `winv_run`)
    and for every schedule of any number of threads: the specification, run on the calls in the order of their
    linearization points, ends in the abstraction of the concrete final state and in exactly what every subscriber has
    observed; and the result every call on the cell is about to return or has returned is the result the specification
    gave that thread's last call (or the one it already had, if it passed no linearization point in this run). -/
theorem c04_lin_run (s : CS) (hi : WInv s) (sched : List Nat) :
    let f := s.run sched
    let a := AS.runCalls s.abs s.obsOf (s.linHist sched)
    a.1 = f.abs ∧ a.2.1 = f.obsOf ∧
    ∀ u r, (s.thAt u).op.isCell = true → (f.thAt u).pendingRes = some r →
      lastRes a.2.2 u = some r ∨ (lastRes a.2.2 u = none ∧ (s.thAt u).pendingRes = some r) := by
  induction sched generalizing s with
  | nil => simp [CS.run, CS.linHist, AS.runCalls, lastRes]
  | cons t ts ih =>
    cases h : s.adv t with
    | none =>
      simp only [CS.run_cons, h, Option.getD_none, CS.linHist]
      exact ih s hi
    | some s' =>
      obtain ⟨ih1, ih2, ih3⟩ := ih s' (winv_adv s s' t hi h)
      obtain ⟨step, soth⟩ := c04_lin_step s s' t hi h
      have hop := adv_op s s' t h
      simp only [CS.run_cons, h, Option.getD_some, CS.linHist]
      cases hl : s.linOf t with
      | none =>
        -- no linearization point: cell and observations stay; the run is the one from `s'`
        simp only [hl] at step ⊢
        obtain ⟨sa, so, sr⟩ := step
        have hobs : s.obsOf = s'.obsOf := funext fun u => by
          by_cases hu : u = t
          · exact hu ▸ so.symm
          · exact (soth u hu).2.symm
        rw [← sa, hobs]
        refine ⟨ih1, ih2, fun u r hc hr => (ih3 u r (by rw [hop u]; exact hc) hr).imp_right fun ⟨hnocall, hhad⟩ => ⟨hnocall, ?_⟩⟩
        by_cases hu : u = t
        · subst hu
          rcases sr hc with e | ⟨_, e⟩
          · exact e ▸ hhad
          · rw [e] at hhad; cases hhad
        · exact (soth u hu).1 ▸ hhad
      | some c =>
        -- the linearization point of `c`: the specification makes this call first and goes on as from `s'`
        simp only [hl, AS.runCalls] at step ⊢
        obtain ⟨sa, sr, so⟩ := step
        have hobs : (fun u => if u = t then (s.abs.apply c (s.obsOf t)).2.2 else s.obsOf u) = s'.obsOf :=
          funext fun u => by
            by_cases hu : u = t
            · rw [if_pos hu, hu]; exact so.symm
            · rw [if_neg hu]; exact (soth u hu).2.symm
        rw [hobs, show (s.abs.apply c (s.obsOf t)).1 = s'.abs from sa.symm]
        refine ⟨ih1, ih2, fun u r hc hr => ?_⟩
        rw [lastRes_cons]
        rcases ih3 u r (by rw [hop u]; exact hc) hr with hlater | ⟨hnocall, hhad⟩
        · -- `u` makes a later call: that one's result counts
          exact .inl (by rw [hlater]; rfl)
        · rw [hnocall]
          by_cases hu : u = t
          · -- `c` is `u`'s last call: `s'` already shows its result (`sr`)
            subst hu; exact .inl (by simpa [sr, CS.obsOf] using hhad)
          · exact .inr ⟨by simp [Ne.symm hu], (soth u hu).1 ▸ hhad⟩

/-- in particular, from the initial state of any program: the final cell and every call's result are those of the
    specification run on the linearization order -/
theorem c04_lin_init (v c n : Nat) (ops : List (COp × Bool)) (hc : 1 ≤ c)
    (hh : (ops.filter fun p => p.1.needsClone).length ≤ c) (sched : List Nat) :
    let s := CS.init true v c n ops
    (AS.runCalls s.abs s.obsOf (s.linHist sched)).1 = (s.run sched).abs :=
  (c04_lin_run _ (winv_init v c n ops hc hh) sched).1

/-- non-vacuity: two writers and a subscriber; the specification run on the linearization order of a schedule that
    interleaves them reproduces the concrete final cell (value 9 written last, version bumped twice) and the results:
    the first writer replaced 5, the second 7, the subscriber sees 9 -/
example :
    let s := CS.init true 5 2 1 [(.set 7, false), (.set 9, false), (.poll, false)]
    let sched := [0, 2, 0, 0, 1, 1, 2, 1, 2, 2, 2, 2]
    (s.run sched).abs = { value := 9, version := 3 } ∧
    (s.linHist sched) = [(0, .set 7), (1, .set 9), (2, .poll)] ∧
    (AS.runCalls s.abs s.obsOf (s.linHist sched)).2.2 = [(0, .prev 5), (1, .prev 7), (2, .poll (.ready 9))] ∧
    ((s.run sched).thAt 2).res = .poll (.ready 9) := by decide

end EV
