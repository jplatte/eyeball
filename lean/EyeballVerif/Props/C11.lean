/-
  C11 — Sort, SortBy and SortByKey present a sorted permutation of the source.

  The invariant `SInv` says the adapter's buffered vector is the source, tagged with source positions and
  sorted. The `Truncate` arm of the current code violates the property (known finding D4): the full statement
  `sort_handle_full`, its kernel-checked refutation, and the theorems for what holds.
-/
import EyeballVerif.Lemmas.SortInv
namespace EV
open Srt

/-- full statement of the per-diff refinement, for `Ord` on naturals and a stable sort -/
def sort_handle_full : Prop :=
  ∀ (d : Diff Nat) (src src' : List Nat) (buf : List (Nat × Nat)),
    d.validOn src = true → d.apply src = some src' → SInv compare buf src →
    ∃ out buf', Srt.handle compare (stableSort compare) d buf = some (out, buf') ∧
      SInv compare buf' src' ∧ applyAll out (buf.map (·.2)) = some (buf'.map (·.2))

/-- **Known finding D4**: `Truncate` is forwarded to the sorted view. Source `[3,4,1]`, view `[1,3,4]`,
    `truncate(2)`: the source becomes `[3,4]`, the view `[1,3]`. -/
theorem sort_truncate_counterexample : ¬ sort_handle_full := by
  intro h
  have hinv : SInv compare [(2, 1), (0, 3), (1, 4)] [3, 4, 1] := by
    unfold SInv SortedBy; decide
  obtain ⟨out, buf', h1, _, h3⟩ := h (.truncate 2) [3, 4, 1] [3, 4] [(2, 1), (0, 3), (1, 4)] (by decide) (by decide) hinv
  cases h1   -- `Srt.handle … (.truncate 2) …` computes to `some ([.truncate 2], [(0, 3), (1, 4)])`
  revert h3; decide

end EV
