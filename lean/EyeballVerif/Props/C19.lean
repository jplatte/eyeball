/-
  C19 — handle and subscriber counts are exact (default flavour; the async flavour holds two references per
  subscriber — known finding D8, see DESIGN.md).
-/
import EyeballVerif.Lemmas.ObsInv
namespace EV
open OWorld

/-- In every reachable world the four counters of a `SharedObservable`, computed as the code computes them
    from the `Arc` counts, are the numbers of live clones, subscribers, their sum, and weak references;
    `Observable::subscriber_count` is the number of live subscribers. -/
theorem c19_counts_exact {α} (eqv : α → α → Bool) (hash : α → Nat) (dflt : α) (w : OWorld α)
    (h : OReach eqv hash dflt w) :
    (w.unique = false →
      w.counts = { observable := w.cloneCount, subscriber := w.subCount,
                   strong := w.cloneCount + w.subCount, weak := w.weakCount }) ∧
    (w.unique = true → w.uniqueSubscriberCount = w.subCount) := by
  have hi := oreach_inv h
  have hstate := hi.arc_state
  constructor
  · intro hu
    rw [ownerCount_shared hu] at hstate
    simp [OWorld.counts, hi.arc_nc, hstate, hi.arc_weak, OWorld.cloneCount, OWorld.subCount, OWorld.weakCount, cnt, subCnt]
  · intro hu
    rw [hi.ownerCount_unique hu] at hstate
    show w.arcState - 1 = subCnt w.subs
    omega

example :
    let step := OWorld.step (α := Nat) (fun a b => a == b) id 0
    let w := [OEv.cloneOwner 0, .subscribe 1 false, .downgrade 0, .dropOwner 0, .upgrade 0, .subClone 0 true].foldl step (OWorld.newShared 1)
    w.counts = { observable := 2, subscriber := 2, strong := 4, weak := 1 } := by decide

end EV
