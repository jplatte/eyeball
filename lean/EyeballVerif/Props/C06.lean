/-
  C06 — lagging subscribers are resynchronised by Reset and never diverge (receiver level).
  The statements quantify over every log, window size and cursor; the reachable-state invariants that
  connect them to whole histories are the `c05_*` theorems of Props/C05.lean.
-/
import EyeballVerif.Lemmas.Recv
namespace EV

/-- with `f` doublings left the loop, started at `p`, reaches `n` or else `p * 2 ^ f` -/
theorem nextPow2Aux_ge (f p n : Nat) (hp : 0 < p) : min n (p * 2 ^ f) ≤ nextPow2Aux f p n ∧ 0 < nextPow2Aux f p n := by
  induction f generalizing p with
  | zero => exact ⟨by rw [Nat.pow_zero, Nat.mul_one]; exact Nat.min_le_right _ _, hp⟩
  | succ f ih =>
    unfold nextPow2Aux
    split
    · have := ih (p * 2) (by omega)
      rw [Nat.pow_succ]
      -- for `omega`, to which `p * 2 ^ f` is an atom
      have e : p * (2 ^ f * 2) = p * 2 * 2 ^ f := by rw [Nat.mul_comm (2 ^ f) 2, Nat.mul_assoc]
      omega
    · omega

/-- the retained window is at least the requested capacity (tokio rounds up to a power of two; the Rust
    side rejects capacities above `usize::MAX / 2`): "more than the window pending" implies
    "more than `capacity` pending" -/
theorem c06_window_ge_capacity (c : Nat) (hc : c ≤ 2 ^ 64) : c ≤ nextPow2 c ∧ 0 < nextPow2 c := by
  have := nextPow2Aux_ge 64 1 c (by omega)
  unfold nextPow2
  omega

/-- **Reset only if lagged, and it carries the newest state** (plain stream). If a poll hands out a `Reset`,
    then more than `B` messages were pending for this receiver, the `Reset` carries the state recorded in
    the newest message, and the receiver has consumed the whole log. -/
theorem c06_plain_reset {α} (B : Nat) (log : List (Msg α)) (c : Bool) (r : Sub α) (vs : List α)
    (hB : 0 < B) (hnr : NoReset log) (hrest : ∀ d ∈ r.rest, ∀ vs, d ≠ .reset vs)
    (h : (pollPlain B log c r).1 = .one (.reset vs)) :
    r.next + B < log.length ∧ log.getLast?.map (·.state) = some vs ∧
    (pollPlain B log c r).2.next = log.length ∧ (pollPlain B log c r).2.rest = [] := by
  obtain ⟨hl, hi, ⟨m, hm, rfl⟩, -, hr'⟩ := (pstep_plain h).of_reset hnr (fun _ => hrest) (.inl rfl)
  exact ⟨hl, by simp [hm], by rw [hr'], by rw [hr']; exact hi rfl⟩

/-- the same for the batched stream: a batch containing a `Reset` is exactly `[Reset newest-state]`
    and is produced only when lagged -/
theorem c06_batched_reset {α} (B : Nat) (log : List (Msg α)) (c : Bool) (r : Sub α) (ds : List (Diff α))
    (vs : List α) (hB : 0 < B) (hnr : NoReset log)
    (h : (pollBatched B log c r).1 = .batch ds) (hmem : Diff.reset vs ∈ ds) :
    r.next + B < log.length ∧ log.getLast?.map (·.state) = some vs ∧ ds = [.reset vs] := by
  obtain ⟨hl, -, ⟨m, hm, rfl⟩, hit, -⟩ := (pstep_batched h).of_reset hnr (fun h => by cases h) (.inr ⟨ds, rfl, hmem⟩)
  exact ⟨hl, by simp [hm], Item.batch.inj hit⟩

/-- each item of the batched stream consumes everything published so far -/
theorem c06_batched_consumes_all {α} (B : Nat) (log : List (Msg α)) (c : Bool) (r : Sub α) (ds : List (Diff α))
    (hB : 0 < B) (h : (pollBatched B log c r).1 = .batch ds) : (pollBatched B log c r).2.next = log.length := by
  rw [(pstep_batched h).of_batch.2]

/-- `Pending` means: nothing left to deliver (the receiver's cursor is at the end of the log, no batch
    remainder) -/
theorem c06_pending_consumed_all {α} (B : Nat) (log : List (Msg α)) (c : Bool) (r : Sub α) :
    ((pollPlain B log c r).1 = .pending → r.rest = [] ∧ log.length ≤ r.next ∧ c = false) ∧
    ((pollBatched B log c r).1 = .pending → log.length ≤ r.next ∧ c = false) := by
  constructor <;> intro h
  · obtain ⟨hi, hn, hc, -⟩ := (pstep_plain h).of_pending
    exact ⟨hi rfl, hn, hc⟩
  · obtain ⟨-, hn, hc, -⟩ := (pstep_batched h).of_pending
    exact ⟨hn, hc⟩

end EV
