/-
  C01 — subscribers see the latest value and exactly the updates they have not observed.

  `fresh` is the specification-level ghost flag of a subscriber: set by every notifying update and by
  `reset` / `subscribe_reset` / `clone_reset`, copied by `clone`, cleared by a ready poll, `next_now` and
  `subscribe`; `get` / `read` do not touch it. The theorems say that the version-counter mechanism of the code
  computes exactly this flag, for every reachable world.
-/
import EyeballVerif.Lemmas.ObsInv
namespace EV
open OWorld

/-- **`next()` / the stream is ready exactly when there is something new**: in every reachable world, a
    poll of a live subscriber answers `End` iff no owner is left, otherwise `Ready(latest value)` iff the
    subscriber has not yet been shown a notifying update (or was reset), otherwise `Pending`. -/
theorem c01_poll_spec {α} (w : OWorld α) (hi : OInv w) (i : Nat) (s : SubSt) (hs : w.subs[i]? = some s)
    (ha : s.alive = true) :
    ∃ w', w.poll i = some (w',
      if w.st.version = 0 then .done else if s.fresh then .ready w.st.value else .pending) := by
  have hcur := (hi.subs_ok i s hs ha).1
  refine ⟨_, (poll_eq_some_iff.mpr ⟨s, hs, ha, rfl⟩).trans (congrArg some (Prod.ext rfl ?_))⟩
  by_cases hv : w.st.version = 0
  · simp [hv]
  · simp only [hv, if_false, (hcur hv).2]; split <;> rfl

/-- a ready poll shows the value once: the flag is cleared, so (without a further notifying update) the
    next poll is `Pending` — intermediate values are skipped, the latest one is delivered once -/
theorem c01_ready_clears {α} (w w' : OWorld α) (i : Nat) (v : α) (h : w.poll i = some (w', .ready v)) :
    ∃ s', w'.subs[i]? = some s' ∧ s'.fresh = false ∧ s'.observed = w.st.version ∧ v = w.st.value ∧ w'.st = w.st := by
  obtain ⟨s, hs, -, hx⟩ := poll_eq_some_iff.mp h
  split at hx
  · cases hx
  split at hx <;> cases hx
  exact ⟨_, getElem?_set_self_of_getElem? _ hs, rfl, rfl, rfl, rfl⟩

/-- the decision logic of the setters, stated outright -/
theorem c01_set_notifies {α} (s : ObsSt α) (v : α) :
    (s.set v).1.value = v ∧ (s.set v).1.version = s.version + 1 ∧ (s.set v).2.1 = s.value ∧ (s.set v).2.2 = s.wakers := by
  simp [ObsSt.set, ObsSt.bump]

theorem c01_set_if_not_eq {α} (eqv : α → α → Bool) (s : ObsSt α) (v : α) :
    (eqv s.value v = true → s.setIfNotEq eqv v = (s, none, [])) ∧
    (eqv s.value v = false → s.setIfNotEq eqv v = ((s.set v).1, some s.value, s.wakers)) := by
  constructor <;> intro h <;> simp [ObsSt.setIfNotEq, h, ObsSt.set, ObsSt.bump]

theorem c01_set_if_hash_not_eq {α} (hash : α → Nat) (s : ObsSt α) (v : α) :
    (hash s.value = hash v → s.setIfHashNotEq hash v = (s, none, [])) ∧
    (hash s.value ≠ hash v → s.setIfHashNotEq hash v = ((s.set v).1, some s.value, s.wakers)) := by
  constructor <;> intro h <;> simp [ObsSt.setIfHashNotEq, h, ObsSt.set, ObsSt.bump]

theorem c01_update_if {α} (s : ObsSt α) (f : α → α) :
    (s.updateIf f false = ({ s with value := f s.value }, [])) ∧
    (s.updateIf f true = ({ value := f s.value, version := s.version + 1, wakers := [] }, s.wakers)) := by
  simp [ObsSt.updateIf, ObsSt.bump]

/-- every notifying writer marks *all* subscribers; a non-notifying one marks nobody -/
theorem c01_write_marks {α} (eqv : α → α → Bool) (hash : α → Nat) (dflt : α) (w w' : OWorld α) (h : Nat)
    (op : WOp α) (r : WRet α) (wk : List Nat) (hw : w.write eqv hash dflt h op = some (w', r, wk)) :
    (w'.st.version = w.st.version + 1 ∧ ∀ s ∈ w'.subs, s.fresh = true) ∨ (w'.st.version = w.st.version ∧ w'.subs = w.subs) := by
  obtain ⟨-, v, ⟨rfl, -⟩ | ⟨rfl, -⟩⟩ := write_spec hw
  · exact .inl ⟨rfl, by simp [OWorld.markFresh]⟩
  · exact .inr ⟨rfl, rfl⟩

/-- `get` / `read` never change anything; `next_now` hands out the latest value and marks it observed -/
theorem c01_next_now_marks {α} (w w' : OWorld α) (i : Nat) (v : α) (h : w.nextNow i = some (w', v)) :
    v = w.st.value ∧ w'.st = w.st ∧ ∃ s', w'.subs[i]? = some s' ∧ s'.fresh = false := by
  obtain ⟨s, hs, -, hx⟩ := liveSub_eq_some h
  cases hx
  exact ⟨rfl, rfl, _, getElem?_set_self_of_getElem? _ hs, rfl⟩

theorem c01_get_latest {α} (w : OWorld α) (i : Nat) (v : α) (h : w.get i = some v) : v = w.st.value := by
  unfold OWorld.get at h; split at h <;> simp at h; exact h.symm

-- non-vacuity: a reachable world with a subscriber that skipped an intermediate value
example :
    let step := OWorld.step (α := Nat) (fun a b => a % 8 == b % 8) (fun a => a / 8) 0
    let w := [OEv.subscribe 0 false, .write 0 (.set 5), .write 0 (.set 6), .poll 0, .poll 0].foldl step (OWorld.newUnique 1)
    (w.subs.map (·.observed)) = [3] ∧ w.st.value = 6 ∧ (w.subs.map (·.parked)) = [true] ∧ w.st.wakers = [0] := by decide

end EV
