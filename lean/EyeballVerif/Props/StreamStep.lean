/-
  C05 / C06 / C08 at the granularity of single receive operations: between any two receive operations of one `poll_next`
  anything may happen. What a `poll_next` hands out when it finally returns (`micro_return`), the properties drawn from it, and
  `pollRun_atomic`: the atomic poll of `Model/OVec` IS this fine-grained poll run with nothing happening in between.
-/
import EyeballVerif.Lemmas.StepInv
namespace EV

/-- reachable in the interleaved world: any capacity, any finite sequence of receive operations of any receivers
    and other events (updates, transactions, subscriptions, drops) in any order -/
def SReach {α} (s : SOV α) : Prop := ∃ (c : Nat) (evs : List (SEv α)), c ≤ 2 ^ 64 ∧ s = evs.foldl SOV.step (SOV.init c)

theorem sreach_inv {α} {s : SOV α} (h : SReach s) : StInv s := by
  obtain ⟨c, evs, hc, rfl⟩ := h
  exact sinv_run c hc evs

theorem sreach_step {α} {s : SOV α} (h : SReach s) (e : SEv α) : SReach (s.step e) := by
  obtain ⟨c, evs, hc, rfl⟩ := h
  exact ⟨c, evs ++ [e], hc, by simp [List.foldl_append]⟩

/-- **What a `poll_next` hands out when it returns**, after any interleaving with the writer and the other
    subscribers since it started: contents and log are untouched by the step, the receiver is idle again, and
    * `Pending`: the consumer's replica equals the current contents (nothing is owed), and the receiver is parked;
    * end of stream: the vector has been dropped and the consumer's replica equals its final contents;
    * one diff (plain stream): strictly applicable to the consumer's replica;
    * a batch (batched stream): non-empty, and strictly applicable as a whole to what the consumer had before the poll;
    * a `Reset` (after lagging): it carries the contents current at the moment `poll_next` returns, and nothing is owed. -/
theorem micro_return {α} (s s' : SOV α) (i : Nat) (k : RK) (it : Item α) (hi : StInv s)
    (h : s.micro i = some (k, some it, s')) :
    ∃ r r', s.ov.subs[i]? = some r ∧ r.alive = true ∧ s'.ov.subs[i]? = some r' ∧ s'.ph i = .idle ∧
      s'.ov.vals = s.ov.vals ∧ s'.ov.log = s.ov.log ∧
      ((it = .pending ∧ s.ph i = .idle ∧ r.replica = some s.ov.vals ∧ r'.replica = r.replica ∧ r'.waiting = true) ∨
       (it = .done ∧ s.ph i = .idle ∧ s.ov.alive = false ∧ r.replica = some s.ov.vals ∧ r'.replica = r.replica) ∨
       (∃ d sh sh', it = .one d ∧ s.ph i = .idle ∧ r.batched = false ∧ r.replica = some sh ∧
          applyAll [d] sh = some sh' ∧ r'.replica = some sh') ∨
       (∃ acc shown sh sh', it = .batch acc ∧ s.ph i = .drain acc shown ∧ acc ≠ [] ∧ shown = some sh ∧
          applyAll acc sh = some sh' ∧ r'.replica = some sh' ∧ ∃ a, a ≤ r.next ∧ acc = skipped s.ov.log a r.next) ∨
       (∃ m, s.ph i = .lag (some m) ∧ (it = .one (.reset m.state) ∨ it = .batch [.reset m.state]) ∧
          m.state = s.ov.vals ∧ r'.replica = some s.ov.vals ∧ r'.next = s.ov.log.length ∧ r'.rest = [])) := by
  obtain ⟨r, r', p', hs, ha, rfl, hm⟩ := SOV.micro_rule h
  obtain rfl := hm.of_some
  obtain ⟨hnorest, hin_log, rep, hrep, hreplay⟩ := hi.base.subs i r hs ha
  have hph := hi.phase i r hs ha
  have hsync : r.rest = [] → s.ov.log.length ≤ r.next → r.replica = some s.ov.vals := fun hr he =>
    hi.base.synced hs ha (owed_caught_up _ _ hr he)
  refine ⟨r, r', hs, ha, put_sub_self s r' .idle hs, put_ph_self, rfl, rfl, ?_⟩
  generalize hp : s.ph i = p at hm hph
  cases hm with
  | @rest d ds hr =>
    obtain ⟨mid, hpass, hbind, -⟩ := owed_pass (r' := { r with rest := ds }) [d] hrep hreplay (by simp [owed, hr])
    exact .inr (.inr (.inl ⟨d, rep, mid, rfl, rfl, plain_of_rest hnorest hr, hrep, hpass, hbind⟩))
  | pending hr he hal => exact .inl ⟨rfl, rfl, hsync hr he, rfl, rfl⟩
  | done hr he hal => exact .inr (.inl ⟨rfl, rfl, hal, hsync hr he, rfl⟩)
  | @one m d ds hr hm hw hb hd =>
    obtain ⟨mid, hpass, hbind, -⟩ := owed_pass (r' := { r with next := r.next + 1, rest := ds }) [d] hrep hreplay
      (owed_ok_part hr hm rfl hd)
    exact .inr (.inr (.inl ⟨d, rep, mid, rfl, rfl, hb, hrep, hpass, hbind⟩))
  | @empty_msg m hr hm hw hb hd => exact absurd hd (hi.base.no_empty m (List.mem_of_getElem? hm))
  | @drain_end acc shown he =>
    obtain ⟨hb, hacc, ⟨sh, rep0, hsh, hrep0, happ⟩, hwhole⟩ := hph
    exact .inr (.inr (.inr (.inl ⟨acc, shown, sh, rep0, rfl, rfl, hacc, hsh, happ, hrep0, hwhole⟩)))
  | @lag_reset m _ _ he _ hit =>
    obtain ⟨hrest, hstate⟩ := hph
    have hn : r.next = s.ov.log.length := Nat.le_antisymm hin_log he
    have hv : m.state = s.ov.vals := hstate hn
    exact .inr (.inr (.inr (.inr ⟨m, rfl, hit ▸ resetItem_cases .., hv,
      by rw [hrep, ← hv]; rfl, hn, hrest⟩)))
  | lag_none he => exact absurd hph.2 (by omega)

/-- **C05, any interleaving: the `unreachable!`s of subscriber.rs are unreachable** — also the one in `handle_lag`
    ("got no new message via try_recv after lag"), whatever the writer does between the receive operations. -/
theorem c05s_never_panics {α} {s s' : SOV α} (hr : SReach s) (i : Nat) (k : RK) :
    s.micro i ≠ some (k, some .panic, s') := by
  intro h
  obtain ⟨r, r', -, -, -, -, -, -, hc⟩ := micro_return s s' i k .panic (sreach_inv hr) h
  -- no disjunct hands out `panic`
  simp at hc

/-- **C05, any interleaving: what is handed out is strictly applicable to what the consumer has**, and leaves the
    consumer with the replica the invariant speaks about (`replica + owed = contents`, `sinv_run`). -/
theorem c05s_delivered_applicable {α} {s s' : SOV α} (hr : SReach s) (i : Nat) (k : RK) (it : Item α)
    (h : s.micro i = some (k, some it, s')) :
    ∃ r r', s.ov.subs[i]? = some r ∧ s'.ov.subs[i]? = some r' ∧
      ((∀ d, it = .one d → ∃ sh sh', applyAll [d] sh = some sh' ∧ r'.replica = some sh' ∧
          (s.ph i = .idle → r.replica = some sh)) ∧
       (∀ ds, it = .batch ds → ds ≠ [] ∧ ∃ sh sh', applyAll ds sh = some sh' ∧ r'.replica = some sh' ∧
          (∀ acc shown, s.ph i = .drain acc shown → shown = some sh))) := by
  obtain ⟨r, r', hs, -, hs', -, -, -, hc⟩ := micro_return s s' i k it (sreach_inv hr) h
  -- a `Reset` applies to anything: what the consumer holds is not tracked through `handle_lag`; witness `sh := []`
  have hreset : ∀ m : Msg α, m.state = s.ov.vals → r'.replica = some s.ov.vals →
      applyAll [.reset m.state] [] = some m.state ∧ r'.replica = some m.state := fun m hcur hrep' =>
    ⟨rfl, by rw [hrep', hcur]⟩
  refine ⟨r, r', hs, hs', ?_, ?_⟩
  · rintro d rfl
    rcases hc with ⟨hit, -⟩ | ⟨hit, -⟩ | ⟨d', sh, sh', hit, -, -, hrep, happ, hrep'⟩ | ⟨acc, shown, sh, sh', hit, -⟩ |
      ⟨m, hph, hit | hit, hcur, hrep', -⟩ <;> cases hit
    · exact ⟨sh, sh', happ, hrep', fun _ => hrep⟩
    · exact ⟨[], m.state, (hreset m hcur hrep').1, (hreset m hcur hrep').2, fun hi => by rw [hph] at hi; cases hi⟩
  · rintro ds rfl
    rcases hc with ⟨hit, -⟩ | ⟨hit, -⟩ | ⟨d, sh, sh', hit, -⟩ | ⟨acc, shown, sh, sh', hit, hph, hne, hshown, happ, hrep', -⟩ |
      ⟨m, hph, hit | hit, hcur, hrep', -⟩ <;> cases hit
    · exact ⟨hne, sh, sh', happ, hrep', fun acc' shown' hp' => by rw [hph] at hp'; cases hp'; exact hshown⟩
    · exact ⟨by simp, [], m.state, (hreset m hcur hrep').1, (hreset m hcur hrep').2, fun acc shown hp' => by rw [hph] at hp'; cases hp'⟩

/-- **C06, any interleaving: a receiver that lagged is handed `Reset(contents current when poll_next returns)`** —
    whatever was published while `handle_lag` was draining — alone in its batch, and is in sync afterwards. -/
theorem c06s_reset_current {α} {s s' : SOV α} (hr : SReach s) (i : Nat) (k : RK) (it : Item α) (msg : Option (Msg α))
    (hp : s.ph i = .lag msg) (h : s.micro i = some (k, some it, s')) :
    (it = .one (.reset s'.ov.vals) ∨ it = .batch [.reset s'.ov.vals]) ∧
    ∃ r', s'.ov.subs[i]? = some r' ∧ r'.replica = some s'.ov.vals ∧ r'.next = s'.ov.log.length ∧ r'.rest = [] := by
  obtain ⟨r, r', -, -, hs', -, hvals, hlog, hc⟩ := micro_return s s' i k it (sreach_inv hr) h
  -- the phase decides the disjunct
  rcases hc with ⟨-, hph, -⟩ | ⟨-, hph, -⟩ | ⟨d, sh, sh', -, hph, -⟩ | ⟨acc, shown, sh, sh', -, hph, -⟩ | ⟨m, hph, hit, hcur, hafter⟩ <;>
    rw [hp] at hph <;> cases hph
  exact ⟨by rw [hvals, ← hcur]; exact hit, r', hs', by rw [hvals, hlog]; exact hafter⟩

/-- **C06, any interleaving: `Pending` only to a receiver in sync** (its replica equals the contents). -/
theorem c06s_pending_synced {α} {s s' : SOV α} (hr : SReach s) (i : Nat) (k : RK) (h : s.micro i = some (k, some .pending, s')) :
    ∃ r', s'.ov.subs[i]? = some r' ∧ r'.replica = some s'.ov.vals ∧ r'.waiting = true := by
  obtain ⟨r, r', -, -, hs', -, hvals, -, hc⟩ := micro_return s s' i k .pending (sreach_inv hr) h
  rcases hc with ⟨hit, -, hsync, hrep', hwait⟩ | ⟨hit, -⟩ | ⟨d, sh, sh', hit, -⟩ | ⟨acc, shown, sh, sh', hit, -⟩ | ⟨m, -, hit | hit, -⟩ <;>
    cases hit
  exact ⟨r', hs', by rw [hrep', hsync, hvals], hwait⟩

/-- **C08, any interleaving: the stream ends only after the vector was dropped, and on its final contents.** -/
theorem c08s_end_final {α} {s s' : SOV α} (hr : SReach s) (i : Nat) (k : RK) (h : s.micro i = some (k, some .done, s')) :
    s'.ov.alive = false ∧ ∃ r', s'.ov.subs[i]? = some r' ∧ r'.replica = some s'.ov.vals := by
  have hal : s'.ov.alive = s.ov.alive := by
    obtain ⟨_, _, _, _, _, rfl, _⟩ := SOV.micro_rule h
    rfl
  obtain ⟨r, r', -, -, hs', -, hvals, -, hc⟩ := micro_return s s' i k .done (sreach_inv hr) h
  rcases hc with ⟨hit, -⟩ | ⟨hit, -, hdrop, hsync, hrep'⟩ | ⟨d, sh, sh', hit, -⟩ | ⟨acc, shown, sh, sh', hit, -⟩ | ⟨m, -, hit | hit, -⟩ <;>
    cases hit
  exact ⟨hal.trans hdrop, r', hs', by rw [hrep', hsync, hvals]⟩

/-- **C07 / C13, any interleaving: a batch consists of whole messages.** Whatever the writer does between the receive
    operations of a `poll_next`, the batch a batched subscriber is handed is exactly the concatenation of the diffs of
    consecutive log messages — and a committed transaction is ONE message (`c07_commit`) — so no state in the middle of
    a transaction is ever observable, also from another thread. (A lagged receiver gets a lone `Reset` instead.) -/
theorem c13s_batch_whole_messages {α} {s s' : SOV α} (hr : SReach s) (i : Nat) (k : RK) (ds : List (Diff α))
    (h : s.micro i = some (k, some (.batch ds), s')) :
    (∃ a b, a ≤ b ∧ b ≤ s.ov.log.length ∧ ds = ((s.ov.log.drop a).take (b - a)).flatMap (·.diffs)) ∨
    ds = [.reset s'.ov.vals] := by
  have hi := sreach_inv hr
  obtain ⟨r, r', hs, ha, -, -, hvals, -, hc⟩ := micro_return s s' i k (.batch ds) hi h
  have hin_log := (hi.base.subs i r hs ha).2.1
  rcases hc with ⟨hit, -⟩ | ⟨hit, -⟩ | ⟨d, sh, sh', hit, -⟩ | ⟨acc, shown, sh, sh', hit, -, -, -, -, -, a, ha_le, hwhole⟩ |
    ⟨m, -, hit | hit, hcur, -⟩ <;> cases hit
  · exact .inl ⟨a, r.next, ha_le, hin_log, hwhole⟩
  · exact .inr (by rw [hvals, ← hcur])

/-- receiver `i`'s `poll_next` run to its return with nothing happening in between (fuel = receive operations allowed) -/
def SOV.pollRun {α} (s : SOV α) (i : Nat) : Nat → Option (Item α × SOV α)
  | 0 => none
  | f + 1 =>
    match s.micro i with
    | none => none
    | some (_, some it, s') => some (it, s')
    | some (_, none, s') => s'.pollRun i f

/-- **Progress of one receive operation**: it either makes `poll_next` return, or moves the cursor strictly forward
    (an `Ok` by one message, a `Lagged` to the oldest retained one) — log and contents untouched. -/
theorem micro_progress {α} (s : SOV α) (i : Nat) (r : Sub α) (hs : s.ov.subs[i]? = some r) (ha : r.alive = true)
    (hn : r.next ≤ s.ov.log.length) :
    ∃ k it s', s.micro i = some (k, it, s') ∧ s'.ov.log = s.ov.log ∧
      (it = none → ∃ r', s'.ov.subs[i]? = some r' ∧ r'.alive = true ∧ r.next < r'.next ∧ r'.next ≤ s.ov.log.length) := by
  obtain ⟨k, it, r', p', hm⟩ := MStep.total s.ov r (s.ph i)
  refine ⟨k, it, _, hm.sound hs ha rfl, rfl, fun hit => ⟨r', put_sub_self s r' p' hs, ?_⟩⟩
  obtain ⟨halive, -, hin_log', hforward⟩ := hm.frame hn
  exact ⟨halive.trans ha, hforward hit, hin_log'⟩

/-- **Every `poll_next` returns**: with nothing new being published it takes at most one receive operation per pending
    message plus one — the drain loop and `handle_lag` cannot spin (the "Lagged twice in a row" arm of `handle_lag`
    moves the cursor forward each time, so it too is left after finitely many rounds once the writer pauses). -/
theorem poll_terminates {α} (n : Nat) : ∀ (s : SOV α) (i : Nat) (r : Sub α), s.ov.subs[i]? = some r → r.alive = true →
    r.next ≤ s.ov.log.length → s.ov.log.length - r.next ≤ n → ∃ it s', s.pollRun i (n + 1) = some (it, s') := by
  induction n using Nat.strongRecOn with
  | ind n ih =>
    intro s i r hs ha hn hm
    obtain ⟨k, it, s', hmic, hlog, hfwd⟩ := micro_progress s i r hs ha hn
    cases it with
    | some it => exact ⟨it, s', by simp [SOV.pollRun, hmic]⟩
    | none =>
      obtain ⟨r', hs', ha', hlt, hin_log'⟩ := hfwd rfl
      -- the cursor moved, so a message was pending
      obtain ⟨m, rfl⟩ : ∃ m, n = m + 1 := ⟨n - 1, by omega⟩
      obtain ⟨it, s'', hrun⟩ := ih m (Nat.lt_succ_self m) s' i r' hs' ha' (by rw [hlog]; exact hin_log') (by rw [hlog]; omega)
      exact ⟨it, s'', by simp only [SOV.pollRun, hmic]; exact hrun⟩

/-- the interleaved run of the witness below: capacity 1 (window 1), a batched receiver, one update queued; then the
    receive operations of ONE `poll_next` with three more updates in between -/
def witnessRun : SOV Nat :=
  ([.ev (.subscribe true), .ev (.direct (.pushBack 1)), .micro 0, .ev (.direct (.pushBack 2)), .ev (.direct (.pushBack 3)),
    .micro 0, .micro 0, .ev (.direct (.pushBack 4)), .micro 0] : List (SEv Nat)).foldl SOV.step (SOV.init 1)

/-- non-vacuity: `Ok` (drain starts), two updates, `Lagged` (inside the drain loop), `Ok`, another update, `Ok`, and the final
    `Empty` hands out `Reset` of the contents current at that moment — a reachable state in which the lag phase returns -/
example : (witnessRun.micro 0).map (fun r => (r.1, r.2.1)) = some (RK.empty, some (.batch [.reset [1, 2, 3, 4]])) := by decide

example : SReach witnessRun := ⟨1, _, by decide, rfl⟩

theorem pollRun_succ {α} (s : SOV α) (i f : Nat) :
    s.pollRun i (f + 1) = (match s.micro i with
      | none => none
      | some (_, some it, s') => some (it, s')
      | some (_, none, s') => s'.pollRun i f) := rfl

theorem pollRun_one {α} {s s' : SOV α} {i : Nat} {k : RK} {it : Item α} (h : s.micro i = some (k, some it, s')) :
    s.pollRun i 1 = some (it, s') := by simp [SOV.pollRun, h]

/-- **`handle_lag` without interleaving**: from the lag phase at a cursor inside the window, the run drains to the end and
    hands out what `handleLag_spec` computes for the atomic model -/
theorem lag_run {α} (k : Nat) : ∀ (s : SOV α) (i : Nat) (r : Sub α) (msg : Option (Msg α)),
    s.ov.subs[i]? = some r → r.alive = true → s.ph i = .lag msg → r.next ≤ s.ov.log.length →
    ¬ r.next + s.ov.B < s.ov.log.length → s.ov.log.length - r.next = k →
    s.pollRun i (k + 1) = some
      (match finalMsg s.ov.log r.next msg with
       | some m => (resetItem r.batched m.state,
                    s.put i { r with next := s.ov.log.length,
                                     replica := (r.replica.bind (applyAll (skipped s.ov.log r.next s.ov.log.length))).bind (applyAll [.reset m.state]) } .idle)
       | none => if s.ov.alive then (.panic, s.put i r .idle) else (.done, s.put i { r with next := r.next } .idle)) := by
  induction k with
  | zero =>
    intro s i r msg hs ha hp hn hw hk
    have hne : r.next = s.ov.log.length := Nat.le_antisymm hn (Nat.le_of_sub_eq_zero hk)
    have hfm : finalMsg s.ov.log r.next msg = msg := if_neg (hne ▸ Nat.lt_irrefl _)
    rw [hfm, pollRun_succ]
    cases msg with
    | none => rw [(MStep.lag_none (Nat.le_of_eq hne.symm) rfl rfl).sound hs ha hp]; cases s.ov.alive <;> rfl
    | some m => rw [(MStep.lag_reset (Nat.le_of_eq hne.symm) rfl rfl).sound hs ha hp]; simp only [hne, skipped_self, bind_applyAll_nil]
  | succ k ih =>
    intro s i r msg hs ha hp hn hw hk
    obtain ⟨hlt, hw1, hk1⟩ : r.next < s.ov.log.length ∧ ¬ r.next + 1 + s.ov.B < s.ov.log.length ∧
        s.ov.log.length - (r.next + 1) = k := by omega
    have hm : s.ov.log[r.next]? = some s.ov.log[r.next] := List.getElem?_eq_getElem hlt
    have hs1 := put_sub_self s { r with next := r.next + 1, replica := r.replica.bind (applyAll s.ov.log[r.next].diffs) }
      (.lag (some s.ov.log[r.next])) hs
    rw [pollRun_succ, (MStep.lag_ok hm hw).sound hs ha hp]
    simp only
    rw [ih _ i _ _ hs1 ha put_ph_self hlt hw1 hk1]
    simp only [put_log, put_alive, put_put]
    rw [finalMsg_succ msg hm]
    cases hf : finalMsg s.ov.log r.next msg with
    | none =>
      simp only [finalMsg, hlt, if_true] at hf
      simp [List.getLast?_eq_none_iff.mp hf] at hlt
    | some m =>
      simp only
      rw [← skipped_trans s.ov.log r.next (r.next + 1) s.ov.log.length (Nat.le_succ _) hlt, skipped_one hm, ← bind_applyAll_append]

/-- **the batched drain loop without interleaving** collects everything that is there, in order -/
theorem drain_run {α} (k : Nat) : ∀ (s : SOV α) (i : Nat) (r : Sub α) (acc : List (Diff α)) (shown : Option (List α)),
    s.ov.subs[i]? = some r → r.alive = true → s.ph i = .drain acc shown → r.next ≤ s.ov.log.length →
    ¬ r.next + s.ov.B < s.ov.log.length → s.ov.log.length - r.next = k →
    s.pollRun i (k + 1) = some (.batch (acc ++ skipped s.ov.log r.next s.ov.log.length),
      s.put i { r with next := s.ov.log.length, replica := r.replica.bind (applyAll (skipped s.ov.log r.next s.ov.log.length)) } .idle) := by
  induction k with
  | zero =>
    intro s i r acc shown hs ha hp hn hw hk
    have hne : r.next = s.ov.log.length := Nat.le_antisymm hn (Nat.le_of_sub_eq_zero hk)
    rw [pollRun_succ, (MStep.drain_end (Nat.le_of_eq hne.symm) rfl).sound hs ha hp]
    simp only [← hne, skipped_self, bind_applyAll_nil, List.append_nil]
  | succ k ih =>
    intro s i r acc shown hs ha hp hn hw hk
    obtain ⟨hlt, hw1, hk1⟩ : r.next < s.ov.log.length ∧ ¬ r.next + 1 + s.ov.B < s.ov.log.length ∧
        s.ov.log.length - (r.next + 1) = k := by omega
    have hm : s.ov.log[r.next]? = some s.ov.log[r.next] := List.getElem?_eq_getElem hlt
    have hs1 := put_sub_self s { r with next := r.next + 1, replica := r.replica.bind (applyAll s.ov.log[r.next].diffs) }
      (.drain (acc ++ s.ov.log[r.next].diffs) shown) hs
    rw [pollRun_succ, (MStep.drain_ok hm hw).sound hs ha hp]
    simp only
    rw [ih _ i _ _ shown hs1 ha put_ph_self hlt hw1 hk1]
    simp only [put_log, put_put]
    rw [← skipped_trans s.ov.log r.next (r.next + 1) s.ov.log.length (Nat.le_succ _) hlt, skipped_one hm, ← bind_applyAll_append, List.append_assoc]

/-- **The atomic poll is the fine-grained poll without interleaving.** In every state satisfying the invariant, for every
    live receiver that is not inside a poll: running its `poll_next` receive operation by receive operation with nothing
    happening in between returns, and it returns exactly what the atomic model's `OV.poll` returns — the same item and the
    same world (cursor, remainder, parked flag, ghost replica), every receiver idle as before. -/
theorem pollRun_atomic {α} (s : SOV α) (hi : StInv s) (i : Nat) (r : Sub α) (hs : s.ov.subs[i]? = some r)
    (ha : r.alive = true) (hp : s.ph i = .idle) :
    ∃ n it s', s.pollRun i n = some (it, s') ∧ s.ov.poll i = some (it, s'.ov) ∧ s'.ph = s.ph := by
  obtain ⟨hnorest, -, rep, hreplica, hreplay⟩ := hi.base.subs i r hs ha
  have hB := hi.base.window
  have hpoll : ∀ {it r1}, PStep r.batched s.ov.B s.ov.log (!s.ov.alive) r it r1 →
      s.ov.poll i = some (it, { s.ov with subs := s.ov.subs.set i { r1 with replica := ghostRep it r1.replica } }) := fun h => by
    rw [OV.poll_eq s.ov i r hs ha, show s.ov.pollOf r = _ from h.sound]
  obtain ⟨k, it, r', p', hm⟩ := MStep.total s.ov r .idle
  have hmic := hm.sound hs ha hp
  cases hm with
  -- one step on both sides
  | @rest d ds hr => exact ⟨1, _, _, pollRun_one hmic, hpoll (.rest d ds (plain_of_rest hnorest hr) hr), ph_put_idle s i _ hp⟩
  | pending hr he hal => exact ⟨1, _, _, pollRun_one hmic, hpoll (.pending (fun _ => hr) he (by simp [hal])), ph_put_idle s i _ hp⟩
  | done hr he hal => exact ⟨1, _, _, pollRun_one hmic, hpoll (.done (fun _ => hr) he (by simp [hal])), ph_put_idle s i _ hp⟩
  | @one m d ds hr hm hw hb hd => exact ⟨1, _, _, pollRun_one hmic, hpoll (.one m d ds hb hr hw hm hd), ph_put_idle s i _ hp⟩
  | @empty_msg m hr hm hw hb hd => exact absurd hd (hi.base.no_empty m (List.mem_of_getElem? hm))
  -- batched: first receive operation, then the drain loop, against the whole batch
  | @drain_start m hr hm hw hb =>
    have hlt := (List.getElem?_eq_some_iff.mp hm).1
    have hs1 := put_sub_self s { r with next := r.next + 1, waiting := false, replica := r.replica.bind (applyAll m.diffs) }
      (.drain m.diffs r.replica) hs
    have hrun := drain_run (s.ov.log.length - (r.next + 1)) _ i _ m.diffs r.replica hs1 ha put_ph_self hlt (by simp; omega) rfl
    simp only [put_log, put_put] at hrun
    refine ⟨_ + 1, _, _, by rw [pollRun_succ, hmic]; exact hrun, ?_, ph_put_idle s i _ hp⟩
    rw [hpoll (.batch _ hb hw hlt rfl), flatMap_drop_of_getElem? _ hm, flat_eq_skipped]
    simp only [ghostRep, bind_applyAll_append]
    rfl
  -- lagged: the cursor jumps, then `handle_lag`, against the `Reset`
  | idle_lagged hr hl =>
    obtain ⟨n0, hn0⟩ : ∃ n0, n0 = s.ov.log.length - s.ov.B := ⟨_, rfl⟩
    rw [← hn0] at hmic
    -- the arithmetic of the jump, in one call: `omega` is dear under `hmic`, `hpoll`
    obtain ⟨hn', hlt0, hle0, hw0, hk0⟩ : n0 ≤ s.ov.log.length ∧ n0 < s.ov.log.length ∧ r.next ≤ n0 ∧
        ¬ n0 + s.ov.B < s.ov.log.length ∧ s.ov.log.length - n0 = s.ov.B := by omega
    have hs1 := put_sub_self s { r with next := n0, waiting := false, replica := r.replica.bind (applyAll (skipped s.ov.log r.next n0)) }
      (.lag none) hs
    have hrun := lag_run s.ov.B _ i _ none hs1 ha put_ph_self hn' hw0 hk0
    simp only [put_log, put_alive, put_put] at hrun
    obtain ⟨last, hlast⟩ := exists_getLast?_of_lt hl
    have hfm : finalMsg s.ov.log n0 none = some last := by
      simp only [finalMsg]; rw [if_pos hlt0]; exact hlast
    simp only [hfm] at hrun
    -- the replica: everything owed replays to the contents, whatever `Reset` then overwrites
    have hrep : ((r.replica.bind (applyAll (skipped s.ov.log r.next n0))).bind
          (applyAll (skipped s.ov.log n0 s.ov.log.length))).bind (applyAll [.reset last.state]) =
        ghostRep (resetItem r.batched last.state) r.replica := by
      simp only [owed, hr, List.nil_append] at hreplay
      rw [bind_applyAll_append r.replica (skipped s.ov.log r.next n0), skipped_trans s.ov.log r.next n0 s.ov.log.length hle0 hn', ← flat_eq_skipped, hreplica]
      simp only [Option.bind_some, hreplay]
      cases r.batched <;> rfl
    refine ⟨_ + 1, _, _, by rw [pollRun_succ, hmic]; exact hrun, ?_, ph_put_idle s i _ hp⟩
    rw [hpoll (.reset last _ (fun _ => hr) hB hl hlast rfl), hrep]
    rfl

end EV
