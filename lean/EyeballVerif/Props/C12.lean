/-
  C12 — adapters compose: a chain shows what applying each view in turn would show.
-/
import EyeballVerif.Props.C09
import EyeballVerif.Props.C10
import EyeballVerif.Lemmas.PipeBasics
namespace EV

/-- the view a stage must present of the view below it, at construction -/
def specView {α} (T : Tables α) (below : List α) : StageSpec → List α
  | .head l => below.take l
  | .dhead _ => []                 -- no limit announced yet
  | .dheadi l _ => below.take l
  | .tail l => lastN l below
  | .dtail _ => []
  | .dtaili l _ => lastN l below
  | .skip c => below.drop c
  | .dskip _ => []                 -- no count announced yet
  | .dskipi c _ => below.drop c
  | .filter fid => below.filterMap (T.filt fid)
  | .sort cid => (T.sort cid (below.mapIdx fun i v => (i, v))).map (·.2)

/-- **The initial values a stage hands to the next one are its current view** (not its internal copy of the
    source — the repaired defect D5): for every kind of stage and every initial contents. -/
theorem c12_initial_values {α} (T : Tables α) (vals : List α) (sp : StageSpec) :
    (mkStage T vals sp).2 = specView T vals sp := by
  cases sp with
  | head l | dheadi l k => exact head_initial vals l
  | dhead k => exact head_initial vals 0
  | tail l | dtaili l k => exact tail_initial vals l
  | dtail k => exact (tail_initial vals 0).trans (List.drop_length ..)
  | skip c | dskipi c k => exact skip_initial vals c
  | dskip k | filter fid | sort cid => rfl

/-- … hence a chain of any length starts from the composition of the views -/
theorem c12_initial_chain {α} (T : Tables α) (vals : List α) (specs : List StageSpec) :
    (mkPipe T vals specs).2 = specs.foldl (specView T) vals := by
  refine (List.foldl_hom (g₂ := specView T) Prod.snd fun acc sp => ?_).symm
  exact (c12_initial_values T acc.2 sp).symm

/-- the buffered vector every Head/Tail/Skip stage starts with is the view below it (what its rewriting
    theorems `head_handle_diff` … are stated against) -/
theorem c12_stage_buffers_view_below {α} (T : Tables α) (vals : List α) (sp : StageSpec) :
    match (mkStage T vals sp).1 with
    | .head _ _ buf r => buf = vals ∧ r = []
    | .tail _ _ buf r => buf = vals ∧ r = []
    | .skip _ _ buf r => buf = vals ∧ r = []
    | .filter fid st => FInv (T.filt fid) st vals
    | .sort _ _ r => r = [] := by
  cases sp with
  | sort cid => rfl
  | filter fid => exact (filter_init (T.filt fid) vals).2
  | _ => exact ⟨rfl, rfl⟩

/-- **The adapter itself as observer.** At any time, what a Head / Tail / Skip hands to an adapter stacked on
    it (`VectorObserver::into_parts`) is its current view of its buffered vector — the first `limit` items, the
    last `limit` items, everything after `count` items (nothing while the count is unknown). -/
theorem c12_into_parts_view {α} (st : Stage α) :
    match st with
    | .head l _ buf _ => st.intoParts = some (buf.take l)
    | .tail l _ buf _ => st.intoParts = some (lastN l buf)
    | .skip (some c) _ buf _ => st.intoParts = some (buf.drop c)
    | .skip none _ _ _ => st.intoParts = some []
    | .filter _ _ => st.intoParts = none
    | .sort _ _ _ => st.intoParts = none := by
  cases st with
  | head l k buf r => exact congrArg some (head_initial buf l)
  | tail l k buf r => exact congrArg some (tail_initial buf l)
  | skip c k buf r =>
    cases c with
    | some c => exact congrArg some (skip_initial buf c)
    | none => rfl
  | filter f s => rfl
  | sort c b r => rfl

-- non-vacuity: dynamic head below a filter starts empty although the source is not
example :
    let T : Tables Nat := { filt := fun _ x => some x, cmp := fun _ => compare, sort := fun _ l => l }
    (mkPipe T [1, 2, 3, 4] [.dhead 0, .filter 0]).2 = [] ∧ (mkPipe T [1, 2, 3, 4] [.tail 3, .skip 1]).2 = [3, 4] := by
  decide

end EV
