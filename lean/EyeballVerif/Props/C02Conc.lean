/-
  C02 across threads — no lost wakeups under every interleaving of the lock-level steps, for any number of
  subscriber tasks, writers, droppers and upgraders.
-/
import EyeballVerif.Lemmas.ConcInv
namespace EV

/-- **No lost wakeup, every schedule.** In every reachable state, a subscriber task whose poll answered
    `Pending` (whether it has already returned or is still inside `poll_update` after the check) and whose waker
    has not been woken is registered in the waker list, the observable is still open, and there is nothing it
    has not observed: it is not suspended while an update or the end of the stream is available. -/
theorem c02_conc_no_lost_wakeup (s : CS) (h : CReach s) (t : Nat) (ht : t < s.ths.length)
    (hp : (s.thAt t).parked = true) :
    t ∈ s.wakers ∧ s.version ≠ 0 ∧ s.version ≤ (s.thAt t).observed := by
  have hi := creach_inv h
  have hw := hi.parked_ok t ht hp
  have := hi.reg_ok t hw
  exact ⟨hw, this.1, this.2.2.2⟩

/-- **Every change of the version wakes everybody**, whichever call performs it (`set`, a `set_if_not_eq` that
    stores, `update`, the close by the last owner's drop): a step after which the version differs leaves the waker list
    empty, and every task that was registered has been woken. -/
theorem c02_conc_version_change_wakes (s s' : CS) (t : Nat) (h : s.adv t = some s') (hv : s'.version ≠ s.version) :
    s'.wakers = [] ∧ ∀ u ∈ s.wakers, u ≠ t → u < s.ths.length → (s'.thAt u).woken = true := by
  obtain ⟨_, g⟩ := adv_seg s s' t h
  rcases g.wake with ⟨e, -⟩ | ⟨e, -⟩ | ⟨-, h0, -⟩
  · exact absurd e hv
  · exact absurd e hv
  · exact ⟨h0, fun u hu hut _ => g.woken h0 hu hut⟩

/-- every notifying update wakes every registered task: after the `incr_version_and_wake` segment all
    wakers that were registered are woken and the list is empty -/
theorem c02_conc_notify_wakes (s s' : CS) (t : Nat) (th : Th) (v p : Nat) (hth : s.ths[t]? = some th)
    (hop : th.op = .set v) (hpc : th.pc = .writeBeforeNotify p) (h : s.adv t = some s') :
    s'.wakers = [] ∧ s'.version = s.version + 1 ∧ ∀ u ∈ s.wakers, u ≠ t → u < s.ths.length → (s'.thAt u).woken = true := by
  have hv : s'.version = s.version + 1 := by simp only [CS.adv, hth, hop, hpc, Option.some.injEq] at h; subst h; rfl
  have ⟨h0, hw⟩ := c02_conc_version_change_wakes s s' t h (by omega)
  exact ⟨h0, hv, hw⟩

/-- … and so does the close performed by the drop of the last clone -/
theorem c02_conc_close_wakes (s s' : CS) (t : Nat) (th : Th) (hth : s.ths[t]? = some th)
    (hop : th.op = .dropClone) (hpc : th.pc = .closeHoldingMeta) (h : s.adv t = some s') :
    s'.wakers = [] ∧ s'.version = 0 ∧ ∀ u ∈ s.wakers, u ≠ t → u < s.ths.length → (s'.thAt u).woken = true := by
  -- not through `c02_conc_version_change_wakes`: without the invariant the version may have been 0 already
  obtain ⟨_, g⟩ := adv_seg s s' t h
  have h0 : s'.wakers = [] ∧ s'.version = 0 := by
    simp only [CS.adv, hth, hop, hpc, Option.some.injEq] at h; subst h; exact ⟨rfl, rfl⟩
  exact ⟨h0.1, h0.2, fun u hu hut _ => g.woken h0.1 hu hut⟩

-- non-vacuity: a subscriber parks, a writer blocked meanwhile then notifies and wakes it
example :
    let s := (CS.init true 1 1 1 [(.poll, false), (.set 5, false)]).run [0, 0, 1, 0, 0, 1, 1]
    (s.thAt 0).res = .poll .pending ∧ (s.thAt 0).woken = true ∧ (s.thAt 1).pc = .writeAfterNotify 1 ∧ s.version = 2 := by
  decide

end EV
