/-
  C11 — Sort / SortBy / SortByKey: soundness of every arm except a shortening `Truncate` (known finding D4),
  for every lawful comparator and every sort function meeting the sort specification; whole histories; witnesses
  that the hypotheses are satisfiable.
-/
import EyeballVerif.Lemmas.SortInv
namespace EV
open Srt
open scoped List

/-- **C11, every arm but a shortening `Truncate`.** For every lawful comparator, every sort function meeting the
    sort specification, every source, every valid diff that is not a `Truncate` that shortens: the arm does not
    panic, the emitted diffs replay strictly on the old sorted view and yield the new one, and the new buffer is
    a sorted permutation of the new source (each position exactly once, with its item). -/
theorem sort_handle_sound {α} {cmp : α → α → Ordering} (hc : LawfulCmp cmp) (sortFn) (hss : SortSpec cmp sortFn)
    (d : Diff α) (src src' : List α) (buf : List (Nat × α))
    (hv : d.validOn src = true) (ha : d.apply src = some src') (hnt : ∀ n, d = .truncate n → src.length ≤ n)
    (hi : SInvP cmp buf src) :
    ∃ out buf', handle cmp sortFn d buf = some (out, buf') ∧ SInvP cmp buf' src' ∧
      applyAll out (buf.map (·.2)) = some (buf'.map (·.2)) := by
  cases d with
  | append vs => cases ha; exact sinvP_append hc sortFn hss buf src vs hi
  | clear => cases ha; exact sinvP_clear sortFn buf
  | pushFront v => cases ha; exact sinvP_pushFront hc sortFn buf src v hi
  | pushBack v => cases ha; exact sinvP_pushBack hc sortFn buf src v hi
  | popFront => cases ha; exact sinvP_popFront sortFn buf src (fun h => by subst h; cases hv) hi
  | popBack => cases ha; exact sinvP_popBack sortFn buf src (fun h => by subst h; cases hv) hi
  | insert i v =>
    obtain ⟨h, rfl⟩ := Diff.insert_apply_eq_some_iff.mp ha; exact sinvP_insert hc sortFn buf src i v h hi
  | set i v =>
    obtain ⟨h, rfl⟩ := Diff.set_apply_eq_some_iff.mp ha; exact sinvP_set hc sortFn buf src i v h hi
  | remove i =>
    obtain ⟨h, rfl⟩ := Diff.remove_apply_eq_some_iff.mp ha; exact sinvP_remove sortFn buf src i h hi
  | truncate n => cases ha; exact sinvP_truncate_noop sortFn buf src n (hnt n rfl) hi
  | reset vs => cases ha; exact sinvP_reset sortFn hss buf _

/-- state of a sorted view fed with the source's diffs: source, buffer, what a strict replica of the view holds -/
structure SortRun (α : Type) where
  src : List α
  buf : List (Nat × α)
  view : Option (List α)

def SortRun.step {α} (cmp : α → α → Ordering) (sortFn : List (Nat × α) → List (Nat × α)) (s : SortRun α) (d : Diff α) : SortRun α :=
  match d.apply s.src, handle cmp sortFn d s.buf with
  | some src', some (out, buf') => { src := src', buf := buf', view := s.view.bind (applyAll out) }
  | _, _ => { s with view := none }

/-- the diffs of a history are valid on the successive sources and no `Truncate` shortens -/
def ValidHist {α} : List (Diff α) → List α → Prop
  | [], _ => True
  | d :: ds, src => d.validOn src = true ∧ (∀ n, d = .truncate n → src.length ≤ n) ∧
      ∃ src', d.apply src = some src' ∧ ValidHist ds src'

/-- **C11 over whole histories**: from the initial view on, after any valid history without shortening
    `Truncate`, the strict replica of the sorted view is defined and is the buffer's items, and the buffer is a
    sorted permutation of the source. -/
theorem sort_run_sound {α} {cmp : α → α → Ordering} (hc : LawfulCmp cmp) (sortFn) (hss : SortSpec cmp sortFn)
    (ds : List (Diff α)) : ∀ (s : SortRun α), SInvP cmp s.buf s.src → s.view = some (s.buf.map (·.2)) → ValidHist ds s.src →
    let s' := ds.foldl (SortRun.step cmp sortFn) s
    SInvP cmp s'.buf s'.src ∧ s'.view = some (s'.buf.map (·.2)) := by
  induction ds with
  | nil => intro s hinv hview _; exact ⟨hinv, hview⟩
  | cons d ds ih =>
    intro s hinv hview ⟨hvalid, hnt, src', happly, hrest⟩
    obtain ⟨out, buf', hhandle, hinv', hreplay⟩ := sort_handle_sound hc sortFn hss d s.src src' s.buf hvalid happly hnt hinv
    -- the step takes the arm that does not panic, and the replica follows by `hreplay`
    have hstep : SortRun.step cmp sortFn s d = { src := src', buf := buf', view := some (buf'.map (·.2)) } := by
      rw [SortRun.step, happly, hhandle, hview]; exact congrArg (SortRun.mk src' buf') hreplay
    rw [List.foldl_cons, hstep]
    exact ih _ hinv' rfl hrest

/-- the reference sort meets the sort specification: the hypothesis `SortSpec` is satisfiable for every lawful comparator -/
theorem stableSort_spec {α} {cmp : α → α → Ordering} (hc : LawfulCmp cmp) : SortSpec cmp (stableSort cmp) := by
  intro l
  have key : ∀ (l acc : List (Nat × α)), SortedBy cmp (acc.map (·.2)) →
      (l.foldl (fun acc x => insertSorted cmp x acc) acc ~ acc ++ l) ∧
      SortedBy cmp ((l.foldl (fun acc x => insertSorted cmp x acc) acc).map (·.2)) := by
    intro l
    induction l with
    | nil => intro acc h; exact ⟨by simp, h⟩
    | cons x xs ih =>
      intro acc h
      obtain ⟨p1, p2⟩ := ih (insertSorted cmp x acc) (insertSorted_sorted hc x acc h)
      exact ⟨p1.trans (((insertSorted_perm cmp x acc).append_right xs).trans List.perm_middle.symm), p2⟩
  exact key l [] List.Pairwise.nil

/-- `Ord` on the naturals is a lawful comparator -/
theorem lawful_nat : LawfulCmp (compare : Nat → Nat → Ordering) := by
  constructor
  · intro a b; simp [Nat.compare_eq_lt, Nat.compare_eq_gt]
  · intro a b c h1 h2
    simp only [ne_eq, Nat.compare_eq_gt, Nat.not_lt] at *
    omega

/-- non-vacuity: a concrete history meets every hypothesis of `sort_run_sound` -/
example : ValidHist [Diff.pushBack 3, .pushBack 1, .insert 1 2, .set 0 0, .append [5, 4], .remove 2, .popFront] ([] : List Nat) :=
  -- per diff: valid (`rfl`), not a `Truncate` (`nofun`), the next source by evaluation (`_`, `rfl`)
  ⟨rfl, nofun, _, rfl, rfl, nofun, _, rfl, rfl, nofun, _, rfl, rfl, nofun, _, rfl, rfl, nofun, _, rfl, rfl, nofun, _, rfl,
    rfl, nofun, _, rfl, trivial⟩

end EV
