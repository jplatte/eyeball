/-
  C03 — a subscriber's stream ends exactly when the last owner is dropped (operation granularity; the
  concurrent drop of the last clones is treated in Props/C03Conc.lean).
-/
import EyeballVerif.Props.C01
namespace EV
open OWorld

/-- **Closed iff no owner.** In every reachable world the observable is closed (subscribers are told `End`)
    exactly when neither the unique `Observable` nor any `SharedObservable` clone exists — through any history
    of clone / drop / downgrade / upgrade / into_shared / subscribe / set / poll. -/
theorem c03_closed_iff_no_owner {α} (eqv : α → α → Bool) (hash : α → Nat) (dflt : α) (w : OWorld α)
    (h : OReach eqv hash dflt w) : w.st.version = 0 ↔ w.ownerCount = 0 := by
  have := (oreach_inv h).open_iff
  omega

/-- a poll answers `End` exactly in closed worlds — never while an owner exists, always afterwards -/
theorem c03_end_iff {α} (eqv : α → α → Bool) (hash : α → Nat) (dflt : α) (w : OWorld α)
    (h : OReach eqv hash dflt w) (i : Nat) (s : SubSt) (hs : w.subs[i]? = some s) (ha : s.alive = true) :
    (∃ w', w.poll i = some (w', .done)) ↔ w.ownerCount = 0 := by
  obtain ⟨w', hp⟩ := c01_poll_spec w (oreach_inv h) i s hs ha
  rw [← c03_closed_iff_no_owner eqv hash dflt w h, hp]
  by_cases hv : w.st.version = 0
  · simp [hv]
  · simp only [hv, if_false, iff_false]
    rintro ⟨_, h2⟩
    split at h2 <;> cases h2

/-- after the end the subscriber keeps answering `End`, and `get` still returns the last stored value -/
theorem c03_after_end {α} (w w' : OWorld α) (i : Nat) (h : w.poll i = some (w', .done)) :
    w'.st = w.st ∧ w.st.version = 0 ∧ (∃ w'', w'.poll i = some (w'', .done)) ∧ w'.get i = some w.st.value := by
  obtain ⟨s, hs, ha, hx⟩ := poll_eq_some_iff.mp h
  have hlt := (List.getElem?_eq_some_iff.mp hs).1
  split at hx
  · next hv =>
    cases hx
    exact ⟨rfl, hv, ⟨_, poll_eq_some_iff.mpr ⟨_, List.getElem?_set_self hlt, ha, if_pos hv⟩⟩,
      by simp [OWorld.get, OWorld.subAlive, hlt, ha]⟩
  · split at hx <;> cases hx

/-- `WeakObservable::upgrade` succeeds exactly while an owner exists -/
theorem c03_upgrade_iff {α} (eqv : α → α → Bool) (hash : α → Nat) (dflt : α) (w : OWorld α)
    (h : OReach eqv hash dflt w) (k : Nat) (hk : w.weaks.getD k false = true) (hu : w.unique = false) :
    ∃ w' r, w.upgrade k = some (w', r) ∧ (r.isSome ↔ w.ownerCount > 0) := by
  have hi := oreach_inv h
  -- `upgrade` succeeds iff both `Arc` counts are positive; the clone counter's is the number of owners, the state's is at least that
  have hnc : w.arcNc = w.ownerCount := hi.arc_nc.trans (ownerCount_shared hu).symm
  have hstate : w.ownerCount ≤ w.arcState := hi.arc_state ▸ Nat.le_add_right ..
  unfold OWorld.upgrade
  simp only [hk, Bool.not_true, Bool.false_eq_true, if_false]
  split
  · next h0 => exact ⟨w, none, rfl, by simp; omega⟩
  split
  · next hn => exact ⟨w, none, rfl, by simp; omega⟩
  · next hn => exact ⟨_, _, rfl, by simp; omega⟩

/-- `into_shared` does not end the subscribers' streams: nothing is closed, nobody is woken, the owner count
    stays 1 -/
theorem c03_into_shared_keeps_open {α} (w w' : OWorld α) (id : Nat) (h : w.intoShared = some (w', id)) :
    w'.st = w.st ∧ w'.subs = w.subs := by
  obtain ⟨-, h⟩ := guard_eq_some h
  cases h
  exact ⟨rfl, rfl⟩

example :
    let step := OWorld.step (α := Nat) (fun a b => a == b) id 0
    let w := [OEv.subscribe 0 false, .cloneOwner 0, .dropOwner 0, .poll 0].foldl step (OWorld.newShared 1)
    w.st.version ≠ 0 ∧ w.ownerCount = 1 ∧
    ([OEv.dropOwner 1].foldl step w).st.version = 0 := by decide

end EV
