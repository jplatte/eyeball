/-
  C14 — no lost wakeup: which events wake, and that polling only ever registers; a chain that answers Pending holds its
  waker with the channel and with every limit / count stream that can still announce something (`Settled`), and answers
  Pending again, unchanged, until an event happens.
-/
import EyeballVerif.Lemmas.PipeBasics
import EyeballVerif.Lemmas.Recv
import EyeballVerif.Lemmas.Traversal
namespace EV

/-- a `send` wakes exactly the parked receivers, and leaves nobody parked -/
theorem c14_send_wakes {α} (s : OV α) (m : Msg α) (h : s.rxCount ≠ 0) :
    (s.send m).2 = s.parked ∧ (s.send m).1.parked = [] := by
  rw [OV.send, if_pos h]
  exact ⟨rfl, s.parked_unparkAll⟩

/-- every direct mutation that publishes wakes every parked receiver -/
theorem c14_direct_wakes {α} (s s' : OV α) (op : VOp α) (r : Ret α) (w : List Nat)
    (h : s.direct op = some (s', r, w)) (hrx : s.rxCount ≠ 0) (hlog : s'.log ≠ s.log) : w = s.parked := by
  unfold OV.direct at h
  cases hex : op.exec s.vals with
  | none => rw [hex] at h; cases h
  | some res =>
    rw [hex] at h
    cases hd : res.diff with
    | none => simp only [hd] at h; cases h; exact absurd rfl hlog
    | some d =>
      simp only [hd] at h; cases h
      -- `by exact`: the sending vector is found by unifying the conclusion first
      exact (c14_send_wakes _ _ (by exact hrx)).1

/-- announcing a limit / count, or ending that stream, wakes the adapter exactly if it is registered there -/
theorem c14_limit_wakes {α} (w : PWorld α) (k v : Nat) (l : Lim) (h : w.lims[k]? = some l) :
    (w.limPush k v).2 = l.waiting ∧ (w.limClose k).2 = l.waiting := by
  simp [PWorld.limPush, PWorld.limClose, h]

/-- polling a limit stream that has nothing to announce registers the waker -/
theorem c14_limPoll_registers {α} (w : PWorld α) (k : Nat) (h : (limPoll w (some k)).1 = .pending) :
    ∃ l, (limPoll w (some k)).2.lims[k]? = some l ∧ l.waiting = true := by
  rcases limPoll_cases w (some k) with ⟨e, _⟩ | ⟨j, l, hj, hl, ⟨v, rest, _, e⟩ | ⟨_, _, e⟩⟩ <;> rw [e] at h ⊢
  · cases h
  · cases h
  · cases hj
    exact ⟨_, getElem?_set_self_of_getElem? _ hl, rfl⟩

/-- a receiver that reports `Pending` is parked in the channel afterwards -/
theorem c14_sub_pending_parked {α} (s s' : OV α) (i : Nat) (h : s.poll i = some (.pending, s')) :
    ∃ r, s'.subs[i]? = some r ∧ r.waiting = true := by
  obtain ⟨r, hs, -, -, -, -, rfl⟩ := (OV.poll_pending_iff s s' i).mp h
  exact ⟨_, getElem?_set_self_of_getElem? _ hs, rfl⟩

/-- limit stream `k` has nothing to announce and either has ended or holds the adapter's waker -/
def Settled {α} (w : PWorld α) (k : Nat) : Prop :=
  ∀ l, w.lims[k]? = some l → l.q = [] ∧ (l.closed = true ∨ l.waiting = true)

theorem settled_registered {α} {w : PWorld α} {k : Nat} {l : Lim} (hl : w.lims[k]? = some l) (hq : l.q = []) :
    Settled { w with lims := w.lims.set k { l with waiting := true } } k := by
  intro l' hl'
  rw [getElem?_set_self_of_getElem? _ hl] at hl'
  cases hl'
  exact ⟨hq, .inr rfl⟩

theorem limPoll_keeps_settled {α} (w : PWorld α) (k : Nat) (k' : Option Nat) (h : Settled w k) : Settled (limPoll w k').2 k := by
  have other : ∀ j (x : Lim), j ≠ k → Settled { w with lims := w.lims.set j x } k := fun j x hjk l' hl' => by
    rw [List.getElem?_set_ne hjk] at hl'; exact h l' hl'
  rcases limPoll_cases w k' with ⟨e, _⟩ | ⟨j, l, _, hl, ⟨v, rest, hq, e⟩ | ⟨hq, _, e⟩⟩ <;> rw [e]
  · exact h
  · -- a settled stream announces nothing: the value came from another one
    exact other j _ fun hjk => by subst hjk; cases hq.symm.trans (h l hl).1
  · by_cases hjk : j = k
    · subst hjk; exact settled_registered hl hq
    · exact other j _ hjk

theorem settled_of_no_value {α} (w : PWorld α) (k : Nat) (h : ∀ v, (limPoll w (some k)).1 ≠ .value v) :
    Settled (limPoll w (some k)).2 k := by
  rcases limPoll_cases w (some k) with ⟨e, hend⟩ | ⟨j, l, hj, hl, ⟨v, rest, _, e⟩ | ⟨hq, _, e⟩⟩ <;> rw [e] at h ⊢
  · exact fun l hl => ⟨(hend k l rfl hl).1, .inl (hend k l rfl hl).2⟩
  · exact absurd rfl (h v)
  · cases hj; exact settled_registered hl hq

/-- polling a chain does not change which limit stream belongs to which stage -/
theorem pollStages_limOf {α} (T : Tables α) (b : Bool) (sub : Nat) :
    ∀ (fuel : Nat) (sts : List (Stage α)) (w : PWorld α),
      (pollStages T b sub fuel sts w).2.1.map Stage.limOf = sts.map Stage.limOf := by
  intro fuel sts w
  have := congrArg (List.map Prod.snd) (pollStages_kind T b sub fuel sts w)
  rwa [List.map_map, List.map_map, show (Prod.snd ∘ Stage.kind) = Stage.limOf from funext fun st => st.limOf_eq_kind_snd.symm] at this

/-- (`hnv`, `hlp` in the shape in which `fun_induction pollStages` hands them over) -/
theorem settled_after {α} (T : Tables α) (b : Bool) (sub n : Nat) (st : Stage α) (inner : List (Stage α)) (w w1 : PWorld α) (lres : LimRes)
    (hnv : ∀ v, lres = .value v → False) (hlp : limPoll w st.limOf = (lres, w1)) (k : Nat) (hk : st.limOf = some k) :
    Settled (pollStages T b sub n inner w1).2.2 k := by
  have h0 : Settled w1 k := by
    have := settled_of_no_value w k (by rw [← hk, hlp]; exact fun v hv => hnv v hv)
    rwa [← hk, hlp] at this
  exact pollStages_preserves T b sub (fun w => Settled w k) (fun w k' h => limPoll_keeps_settled w k k' h)
    (fun _ _ _ _ h => h) n inner w1 h0

/-- **C14 for whole pipelines: `Pending` means registered everywhere.** Whenever polling a chain of adapters
    (any kinds, any depth, either stream flavour) answers `Pending`, the subscriber at the bottom is parked in the
    channel and every stage's limit / count stream has either ended or holds the waker — so by `c14_send_wakes`,
    `c14_drop_wakes` and `c14_limit_wakes` every event that can make the chain ready wakes the task. -/
theorem c14_pipe_pending_registered {α} (T : Tables α) (b : Bool) (sub : Nat) :
    ∀ (fuel : Nat) (sts sts' : List (Stage α)) (w w' : PWorld α) (it : Item α),
      pollStages T b sub fuel sts w = (it, sts', w') → it = .pending →
      (∃ r, w'.ov.subs[sub]? = some r ∧ r.waiting = true) ∧
      ∀ k, some k ∈ sts.map Stage.limOf → Settled w' k := by
  intro fuel sts sts' w w' it h hp
  subst hp
  fun_induction pollStages T b sub fuel sts w generalizing sts' w' with
  | case1 | case3 | case4 | case8 => cases h
  | case2 n w it ov' hp =>
    cases h
    exact ⟨c14_sub_pending_parked w.ov ov' sub hp, nofun⟩
  | case5 n st inner w hr v w1 hlp ds st1 hol it rest he => cases h; exact absurd he (emit_ne_pending _ _ _)
  | case9 n st inner w hr lres w1 hnv hlp it inner' w2 hin ds hd out st2 hod it' rest he ih => cases h; exact absurd he (emit_ne_pending _ _ _)
  | case6 n st inner w hr v w1 hlp ds st1 hol he ih =>
    obtain ⟨g1, g2⟩ := ih _ _ h
    exact ⟨g1, fun k hk => g2 k (by rwa [List.map_cons, Stage.limOf_of_kind (kind_onLimit hol)])⟩
  | case7 n st inner w hr lres w1 hnv hlp it inner' w2 hin hd ih =>
    cases h
    obtain ⟨g1, g2⟩ := ih _ _ hin
    refine ⟨g1, fun k hk => ?_⟩
    rcases List.mem_cons.mp hk with hk | hk
    · have := settled_after T b sub n st inner w w1 lres hnv hlp k hk.symm
      rwa [hin] at this
    · exact g2 k hk
  | case10 n st inner w hr lres w1 hnv hlp it inner' w2 hin ds hd out st2 hod he ih2 ih1 =>
    obtain ⟨g1, g2⟩ := ih1 _ _ h
    refine ⟨g1, fun k hk => g2 k ?_⟩
    have hl := pollStages_limOf T b sub n inner w1
    rw [hin] at hl
    rwa [List.map_cons, Stage.limOf_of_kind (onDiffs_frame T st st2 ds out hod).1, hl]

/-- a receiver that answered `Pending` answers `Pending` again, and nothing changes, as long as nothing happens -/
theorem ov_poll_pending_idem {α} (s s' : OV α) (i : Nat) (h : s.poll i = some (.pending, s')) : s'.poll i = some (.pending, s') := by
  obtain ⟨r, hs, hal, hi, hn, hc, rfl⟩ := (OV.poll_pending_iff s s' i).mp h
  have hlt : i < s.subs.length := (List.getElem?_eq_some_iff.mp hs).1
  -- the stored receiver is `r`, parked: parking it again changes nothing
  refine (OV.poll_pending_iff _ _ i).mpr ⟨{ r with waiting := true }, List.getElem?_set_self hlt, hal, hi, hn, hc, ?_⟩
  simp only [List.set_set]

/-- a settled limit stream answers the same again and nothing changes -/
theorem limPoll_settled {α} (w : PWorld α) (k : Option Nat) (hk : ∀ j, k = some j → Settled w j) :
    (∀ v, (limPoll w k).1 ≠ .value v) ∧ (limPoll w k).2 = w := by
  rcases limPoll_cases w k with ⟨e, _⟩ | ⟨j, l, hj, hl, ⟨v, rest, hq, e⟩ | ⟨hq, hc, e⟩⟩ <;> rw [e]
  · exact ⟨nofun, rfl⟩
  · cases hq.symm.trans (hk j hj l hl).1
  · -- not ended, so the waker is held: registering again changes nothing
    have hw : l.waiting = true := ((hk j hj l hl).2.resolve_left (by rw [hc]; nofun))
    have : ({ l with waiting := true } : Lim) = l := by rw [← hw]
    obtain ⟨hlt, rfl⟩ := List.getElem?_eq_some_iff.mp hl
    exact ⟨nofun, by rw [this, List.set_getElem_self hlt]⟩

/-- **C14: no spurious progress.** A pipeline that answered `Pending` answers `Pending` again, with every stage and
    the whole world unchanged, as long as nothing happens in between: it becomes ready only through an event — and
    every such event wakes it (`c14_pipe_pending_registered` with `c14_send_wakes`, `c08_drop_wakes`, `c14_limit_wakes`). -/
theorem c14_pending_idempotent {α} (T : Tables α) (b : Bool) (sub : Nat) :
    ∀ (n : Nat) (sts sts' : List (Stage α)) (w w' : PWorld α),
      pollStages T b sub n sts w = (.pending, sts', w') → pollStages T b sub n sts' w' = (.pending, sts', w') := by
  intro n sts sts' w w' h
  -- the loop started over: the rest ran with one unit of fuel less
  have again : ∀ n (sts' : List (Stage α)) (w' : PWorld α), pollStages T b sub n sts' w' = (.pending, sts', w') →
      pollStages T b sub (n + 1) sts' w' = (.pending, sts', w') := fun n sts' w' h => by
    rw [pollStages_fuel_succ T b sub n sts' w' (by rw [h]; nofun), h]
  fun_induction pollStages T b sub n sts w generalizing sts' w' with
  | case1 | case3 | case4 | case8 => cases h
  | case2 n w it ov' hp => cases h; rw [pollStages_nil, ov_poll_pending_idem w.ov ov' sub hp]
  | case5 n st inner w hr v w1 hlp ds st1 hol it rest he => cases h; exact absurd he (emit_ne_pending _ _ _)
  | case9 n st inner w hr lres w1 hnv hlp it inner' w2 hin ds hd out st2 hod it' rest he ih => cases h; exact absurd he (emit_ne_pending _ _ _)
  | case6 n st inner w hr v w1 hlp ds st1 hol he ih => exact again _ _ _ (ih _ _ h)
  | case10 n st inner w hr lres w1 hnv hlp it inner' w2 hin ds hd out st2 hod he ih2 ih1 => exact again _ _ _ (ih1 _ _ h)
  | case7 n st inner w hr lres w1 hnv hlp it inner' w2 hin hd ih =>
    cases h
    have hst := limPoll_settled w2 st.limOf fun j hj => by
      have := settled_after T b sub n st inner w w1 lres hnv hlp j hj
      rwa [hin] at this
    rw [pollStages_cons_novalue T b sub n st inner' w2 hr hst.1, hst.2, ih _ _ hin]
    rfl

end EV
