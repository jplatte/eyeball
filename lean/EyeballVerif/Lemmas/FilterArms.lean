/-
  Filter / FilterMap. The index arms are stated for a source already split at the index (`S1 ++ S2`, `S1 ++ a :: S2`):
  the partition point at `S1.length` is `(idxFrom f 0 S1).length` = `(S1.filterMap f).length`, so the view splits where
  the source splits and the arm replays the same edit there.
-/
import EyeballVerif.Model.Adapters
import EyeballVerif.Lemmas.ApplyAll
import EyeballVerif.Lemmas.ListExtra
namespace EV
open Filter

theorem idxFrom_append {α β} (f : α → Option β) (k : Nat) (a b : List α) :
    idxFrom f k (a ++ b) = idxFrom f k a ++ idxFrom f (k + a.length) b := by
  induction a generalizing k with
  | nil => simp [idxFrom]
  | cons x xs ih =>
    simp only [List.cons_append, idxFrom, List.length_cons]
    split <;> simp [ih, Nat.add_assoc, Nat.add_comm 1]

theorem idxFrom_succ {α β} (f : α → Option β) (k : Nat) (l : List α) :
    idxFrom f (k + 1) l = (idxFrom f k l).map (· + 1) := by
  induction l generalizing k with
  | nil => simp [idxFrom]
  | cons x xs ih => simp only [idxFrom]; split <;> simp [ih]

theorem idxFrom_pred {α β} (f : α → Option β) (k : Nat) (l : List α) :
    (idxFrom f (k + 1) l).map (· - 1) = idxFrom f k l := by
  rw [idxFrom_succ]; simp [List.map_map, Function.comp_def]

theorem idxFrom_bounds {α β} (f : α → Option β) (k : Nat) (l : List α) :
    ∀ i ∈ idxFrom f k l, k ≤ i ∧ i < k + l.length := by
  induction l generalizing k with
  | nil => simp [idxFrom]
  | cons x xs ih =>
    intro i hi
    simp only [idxFrom] at hi
    split at hi
    · simp at hi; rcases hi with rfl | h
      · simp
      · have := ih (k + 1) i h; simp; omega
    · have := ih (k + 1) i hi; simp; omega

theorem idxFrom_length {α β} (f : α → Option β) (k : Nat) (l : List α) :
    (idxFrom f k l).length = (l.filterMap f).length := by
  induction l generalizing k with
  | nil => simp [idxFrom]
  | cons x xs ih =>
    simp only [idxFrom, List.filterMap_cons]
    cases h : f x <;> simp [ih]

theorem takeWhile_all {l : List Nat} {n : Nat} (h : ∀ x ∈ l, x < n) : l.takeWhile (· < n) = l := by
  induction l with
  | nil => rfl
  | cons x xs ih => simp_all

/-- the adapter's bookkeeping is right for the source `src`: `original_len` is its length and
    `filtered_indices` are exactly the source positions of the items that pass, ascending -/
def FInv {α β} (f : α → Option β) (st : FilterSt) (src : List α) : Prop :=
  st.olen = src.length ∧ st.idx = idxFrom f 0 src

/-- what one arm must establish -/
abbrev FilterArmOK {α β} (f : α → Option β) (d : Diff α) (src src' : List α) (st : FilterSt) : Prop :=
  FInv f (Filter.handle f d st).2 src' ∧
  applyAll (Filter.handle f d st).1.toList (src.filterMap f) = some (src'.filterMap f)

theorem filter_append {α β} (f : α → Option β) (vs src : List α) (st : FilterSt) (hi : FInv f st src) :
    FilterArmOK f (.append vs) src (src ++ vs) st := by
  obtain ⟨holen, hidx⟩ := hi
  simp only [FilterArmOK, Filter.handle, appendFilter, FInv]
  refine ⟨⟨by simp [holen], by simp [hidx, holen, idxFrom_append]⟩, ?_⟩
  by_cases he : (vs.filterMap f).isEmpty
  · have he' : vs.filterMap f = [] := by simpa using he
    simp [he']
  · simp [he, applyAll_append_cons]

theorem filter_clear {α β} (f : α → Option β) (src : List α) (st : FilterSt) :
    FilterArmOK f .clear src [] st := by
  simp [FilterArmOK, Filter.handle, FInv, idxFrom, applyAll_clear_cons]

theorem filter_reset {α β} (f : α → Option β) (vs src : List α) (st : FilterSt) :
    FilterArmOK f (.reset vs) src vs st := by
  simp only [FilterArmOK, Filter.handle, appendFilter, FInv]
  refine ⟨⟨by simp, by simp⟩, ?_⟩
  by_cases he : (vs.filterMap f).isEmpty
  · have he' : vs.filterMap f = [] := by simpa using he
    simp [he', applyAll_reset_cons]
  · simp [he, applyAll_reset_cons]

theorem filter_pushFront {α β} (f : α → Option β) (v : α) (src : List α) (st : FilterSt) (hi : FInv f st src) :
    FilterArmOK f (.pushFront v) src (v :: src) st := by
  obtain ⟨holen, hidx⟩ := hi
  simp only [FilterArmOK, Filter.handle, FInv]
  cases hf : f v with
  | none => simp [hf, idxFrom, holen, hidx, idxFrom_succ]
  | some w => simp [hf, idxFrom, holen, hidx, idxFrom_succ, applyAll_pushFront_cons]

theorem filter_pushBack {α β} (f : α → Option β) (v : α) (src : List α) (st : FilterSt) (hi : FInv f st src) :
    FilterArmOK f (.pushBack v) src (src ++ [v]) st := by
  obtain ⟨holen, hidx⟩ := hi
  simp only [FilterArmOK, Filter.handle, FInv]
  cases hf : f v with
  | none => simp [hf, idxFrom, holen, hidx, idxFrom_append]
  | some w => simp [hf, idxFrom, holen, hidx, idxFrom_append, applyAll_pushBack_cons]

theorem filter_popFront {α β} (f : α → Option β) (a : α) (t : List α) (st : FilterSt) (hi : FInv f st (a :: t)) :
    FilterArmOK f .popFront (a :: t) t st := by
  obtain ⟨holen, hidx⟩ := hi
  simp only [FilterArmOK, Filter.handle, FInv, hidx, idxFrom]
  cases hf : f a with
  | none =>
    have hh : (idxFrom f 1 t).head? ≠ some 0 := fun h => by
      have := idxFrom_bounds f 1 t 0 (List.mem_of_mem_head? h); omega
    simp [hh, hf, holen, idxFrom_pred]
  | some w => simp [hf, holen, idxFrom_pred, applyAll_popFront_cons]

theorem filter_popBack {α β} (f : α → Option β) (a : α) (t : List α) (st : FilterSt) (hi : FInv f st (t ++ [a])) :
    FilterArmOK f .popBack (t ++ [a]) t st := by
  obtain ⟨holen, hidx⟩ := hi
  have hpred : st.olen - 1 = t.length := by simp [holen]
  simp only [FilterArmOK, Filter.handle, FInv, hidx, hpred, idxFrom_append, idxFrom]
  cases hf : f a with
  | none =>
    have hh : (idxFrom f 0 t).getLast? ≠ some t.length := fun h => by
      have := idxFrom_bounds f 0 t _ (List.mem_of_getLast? h); omega
    simp [hh, hf]
  | some w => simp [hf, applyAll_popBack_cons]

theorem idxFrom_mid {α β} (f : α → Option β) (S1 S2 : List α) (a : α) :
    idxFrom f 0 (S1 ++ a :: S2) =
      idxFrom f 0 S1 ++ (if (f a).isSome then [S1.length] else []) ++ idxFrom f (S1.length + 1) S2 := by
  rw [idxFrom_append]; simp only [idxFrom, Nat.zero_add]; split <;> simp

theorem takeWhile_idx {α β} (f : α → Option β) (S1 S2 : List α) :
    (idxFrom f 0 (S1 ++ S2)).takeWhile (· < S1.length) = idxFrom f 0 S1 := by
  rw [idxFrom_append]
  apply takeWhile_split
  · intro x hx; have := idxFrom_bounds f 0 S1 x hx; exact decide_eq_true (by omega)
  · intro x hx; have := idxFrom_bounds f _ S2 x hx; exact decide_eq_false (by omega)

theorem ppoint_idx {α β} (f : α → Option β) (S1 S2 : List α) :
    ppoint (idxFrom f 0 (S1 ++ S2)) S1.length = (idxFrom f 0 S1).length := by
  rw [ppoint, takeWhile_idx]

theorem idx_at_mid {α β} (f : α → Option β) (S1 S2 : List α) (a : α) :
    (idxFrom f 0 (S1 ++ a :: S2))[(idxFrom f 0 S1).length]? = some S1.length ↔ (f a).isSome := by
  rw [idxFrom_mid, List.append_assoc, List.getElem?_append_right (Nat.le_refl _), Nat.sub_self]
  cases hfa : f a with
  | some _ => simp
  | none =>
    simp only [Option.isSome_none, Bool.false_eq_true, if_false, List.nil_append, iff_false]
    intro h
    have := idxFrom_bounds f _ S2 _ (List.mem_of_getElem? h); omega

theorem filter_insert {α β} (f : α → Option β) (v : α) (S1 S2 : List α) (st : FilterSt)
    (hi : FInv f st (S1 ++ S2)) :
    FilterArmOK f (.insert S1.length v) (S1 ++ S2) (S1 ++ v :: S2) st := by
  obtain ⟨holen, hidx⟩ := hi
  -- indices behind `pos` shift (`idxFrom_succ`); the view gets `f v`, if any, at `pos`
  simp only [FilterArmOK, Filter.handle, FInv, hidx, ppoint_idx]
  rw [idxFrom_append]
  simp only [List.take_left', List.drop_left']
  cases hf : f v <;>
    simp [hf, holen, idxFrom_mid, idxFrom_succ, applyAll_insert_cons, idxFrom_length, Nat.add_assoc]

theorem filter_set {α β} (f : α → Option β) (v a : α) (S1 S2 : List α) (st : FilterSt)
    (hi : FInv f st (S1 ++ a :: S2)) :
    FilterArmOK f (.set S1.length v) (S1 ++ a :: S2) (S1 ++ v :: S2) st := by
  obtain ⟨holen, hidx⟩ := hi
  have hl := idxFrom_length f 0 S1
  -- whether `a` passed: `idx_at_mid`; by (`f a`, `f v`): nothing / insert / remove / set at `pos`
  simp only [FilterArmOK, Filter.handle, FInv, hidx, ppoint_idx f S1 (a :: S2), idx_at_mid]
  rw [idxFrom_mid]
  cases hfa : f a <;> cases hf : f v <;>
    simp [hf, hfa, holen, hidx, idxFrom_mid, applyAll_set_cons, applyAll_remove_cons, applyAll_insert_cons, hl,
      eraseIdx_mid _ _ _ _ hl.symm, eraseIdx_mid _ _ _ _ rfl]

theorem filter_remove {α β} (f : α → Option β) (a : α) (S1 S2 : List α) (st : FilterSt)
    (hi : FInv f st (S1 ++ a :: S2)) :
    FilterArmOK f (.remove S1.length) (S1 ++ a :: S2) (S1 ++ S2) st := by
  obtain ⟨holen, hidx⟩ := hi
  have hl := idxFrom_length f 0 S1
  -- as `Set`; later indices move down either way
  simp only [FilterArmOK, Filter.handle, FInv, hidx, ppoint_idx f S1 (a :: S2), idx_at_mid]
  rw [idxFrom_mid]
  cases hfa : f a with
  | some fa =>
    simp [hfa, holen, idxFrom_append, applyAll_remove_cons, hl,
      eraseIdx_mid _ _ _ _ hl.symm, eraseIdx_mid _ _ _ _ rfl, idxFrom_pred]
  | none => simp [hfa, holen, idxFrom_append, idxFrom_pred]

theorem filter_truncate {α β} (f : α → Option β) (S1 S2 : List α) (st : FilterSt)
    (hi : FInv f st (S1 ++ S2)) :
    FilterArmOK f (.truncate S1.length) (S1 ++ S2) S1 st := by
  obtain ⟨holen, hidx⟩ := hi
  -- the model writes `ppoint` out here, hence `takeWhile_idx`; `k < idx.length`: some item of `S2` passes
  simp only [FilterArmOK, Filter.handle, FInv, hidx, takeWhile_idx]
  rw [idxFrom_append, Nat.zero_add]
  split
  · simp [applyAll_truncate_cons, idxFrom_length]
  · rename_i hk
    have hi2 : idxFrom f S1.length S2 = [] := by simpa using hk
    have : S2.filterMap f = [] :=
      List.eq_nil_of_length_eq_zero (by rw [← idxFrom_length f S1.length, hi2]; rfl)
    simp [this, hi2]

theorem filter_noTrunc {α β} (f : α → Option β) (d : Diff α) (st : FilterSt) (h : ∀ n, d ≠ .truncate n) :
    NoTrunc (Filter.handle f d st).1.toList := by
  cases d with
  | truncate n => exact absurd rfl (h n)
  | _ =>
    -- every other arm emits nothing or one diff with a fixed constructor other than `truncate`
    simp only [Filter.handle, Filter.appendFilter]
    repeat' split
    all_goals first | exact noTrunc_nil | exact noTrunc_singleton nofun

end EV
