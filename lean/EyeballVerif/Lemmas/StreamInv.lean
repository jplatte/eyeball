/-
  The stream-level invariant `VInv` of `ObservableVector` + its subscribers: kept by what grows the world and by a poll, hence
  by every event and at every reachable state. The same two cases suffice for anything else (`vstep_ind`), as for `RestIn`.
-/
import EyeballVerif.Lemmas.Events
import EyeballVerif.Lemmas.Delivers
import EyeballVerif.Props.C06
namespace EV

structure VInv {α} (s : OV α) : Prop where
  window : 0 < s.B
  no_reset : NoReset s.log
  no_empty : NoEmptyMsg s.log
  txn : TxnInv s
  txn_nr : ∀ t, s.txn = some t → ∀ d ∈ t.batch, ∀ vs, d ≠ .reset vs
  /-- per live receiver: it is inside the log, a batched one keeps no remainder, and replaying everything
      still owed to it on its replica yields the vector's contents -/
  subs : ∀ (i : Nat) (r : Sub α), s.subs[i]? = some r → r.alive = true →
    (r.batched = true → r.rest = []) ∧ r.next ≤ s.log.length ∧
    ∃ rep, r.replica = some rep ∧ applyAll (owed s.log r) rep = some s.vals
  /-- if anything is pending for a live receiver, the newest message carries the current contents -/
  last : ∀ (i : Nat) (r : Sub α), s.subs[i]? = some r → r.alive = true → r.next < s.log.length →
    (s.log.getLast?).map (·.state) = some s.vals

theorem VInv.last_state {α} {s : OV α} (hi : VInv s) {i : Nat} {r : Sub α} {m : Msg α} (hs : s.subs[i]? = some r)
    (ha : r.alive = true) (hlt : r.next < s.log.length) (hm : s.log.getLast? = some m) : m.state = s.vals := by
  have := hi.last i r hs ha hlt
  rw [hm] at this; simpa using this

theorem VInv.synced {α} {s : OV α} (hi : VInv s) {i : Nat} {r : Sub α} (hs : s.subs[i]? = some r) (ha : r.alive = true)
    (ho : owed s.log r = []) : r.replica = some s.vals := by
  obtain ⟨-, -, rep, hrep, hreplay⟩ := hi.subs i r hs ha
  rw [ho] at hreplay
  exact hrep.trans hreplay

theorem rx_of_alive {α} (s : OV α) (i : Nat) (r : Sub α) (h : s.subs[i]? = some r) (ha : r.alive = true) : s.rxCount ≠ 0 :=
  Nat.ne_of_gt (show 0 < (s.subs.filter _).length from List.countP_eq_length_filter ▸ countP_pos_of_getElem? h ha)

theorem rxCount_set_sub {α} (s : OV α) (i : Nat) (r r' : Sub α) (hs : s.subs[i]? = some r) (ha : r'.alive = r.alive) :
    ({ s with subs := s.subs.set i r' } : OV α).rxCount = s.rxCount := by
  have := countP_set_of_getElem? (p := fun x : Sub α => x.alive) hs r'
  simp only [OV.rxCount, ← List.countP_eq_length_filter, ha] at this ⊢
  exact Nat.add_right_cancel this

theorem exec_no_reset {α} (op : VOp α) (l : List α) (r : OpRes α) (h : op.exec l = some r) (d : Diff α)
    (hd : r.diff = some d) (vs : List α) : d ≠ .reset vs := by
  -- arm by arm: `VOp.exec` spells out the diff recorded, and `hd` equates two different constructors
  rintro rfl
  cases op <;> simp only [VOp.exec] at h <;> (try split at h) <;> cases h <;> cases hd

theorem vinv_new {α} (c : Nat) (hc : c ≤ 2 ^ 64) : VInv (OV.new (α := α) c) := by
  constructor
  · exact (c06_window_ge_capacity c hc).2
  · intro m hm; simp [OV.new] at hm
  · intro m hm; simp [OV.new] at hm
  · intro t ht; simp [OV.new] at ht
  · intro t ht; simp [OV.new] at ht
  · intro i r h; simp [OV.new] at h
  · intro i r h; simp [OV.new] at h

theorem txnOp_no_reset {α} (s s' : OV α) (o : VOp α) (r : Ret α) (h : s.txnOp o = some (s', r))
    (hn : ∀ t, s.txn = some t → ∀ d ∈ t.batch, ∀ vs, d ≠ .reset vs) :
    ∀ t, s'.txn = some t → ∀ d ∈ t.batch, ∀ vs, d ≠ .reset vs := by
  obtain ⟨t, t', ht, rfl, hc⟩ := txnOp_spec s s' o r h
  intro t'' ht'' d hd vs
  cases ht''
  rcases hc with ⟨_, hb⟩ | ⟨res, he, _, hb⟩
  · rw [hb] at hd; split at hd <;> simp at hd
    subst hd; simp
  · rw [hb] at hd; split at hd
    · rcases List.mem_append.mp hd with hd | hd
      · exact hn t ht d hd vs
      · exact exec_no_reset o t.working res he d (by simpa using hd) vs
    · exact hn t ht d hd vs

theorem Publishes.replay {α} {s : OV α} {ds : List (Diff α)} {v' : List α} (h : Publishes s ds v') (hi : VInv s) (hrx : s.rxCount ≠ 0) :
    applyAll ds s.vals = some v' ∧ ∀ d ∈ ds, ∀ vs, d ≠ .reset vs := by
  cases h with
  | call op r d he hd =>
    refine ⟨by simpa [hd] using (c05_exec_faithful op s.vals r he).1, ?_⟩
    intro x hx vs; simp at hx; subst hx; exact exec_no_reset op s.vals r he x hd vs
  | commit t ht => exact ⟨hi.txn t ht hrx, hi.txn_nr t ht⟩

theorem vinv_grow {α} {s s' : OV α} (hi : VInv s) (hg : Grow s s') : VInv s' := by
  have hlen : s.log.length ≤ s'.log.length := by
    rcases hg.log_grows with ⟨h, _⟩ | ⟨ds, many, h, _⟩ <;> simp [h]
  refine ⟨hg.window ▸ hi.window, ?no_reset, ?no_empty, ?txn, ?txn_nr, ?subs, ?last⟩
  case no_reset =>
    rcases hg.log_grows with ⟨h, _⟩ | ⟨ds, many, h, _, hrx, hsrc⟩
    · rw [h]; exact hi.no_reset
    · rw [h]; intro m hm
      rcases List.mem_append.mp hm with hm | hm
      · exact hi.no_reset m hm
      · rw [List.mem_singleton.mp hm]; exact (hsrc.replay hi hrx).2
  case no_empty =>
    rcases hg.log_grows with ⟨h, _⟩ | ⟨ds, many, h, hne, _, _⟩
    · rw [h]; exact hi.no_empty
    · rw [h]; intro m hm
      rcases List.mem_append.mp hm with hm | hm
      · exact hi.no_empty m hm
      · rw [List.mem_singleton.mp hm]; exact hne
  case txn =>
    rcases hg.txn_moves with h | ⟨h, hv, hrx⟩ | ⟨hv, h⟩ | ⟨o, r, h⟩
    · intro t ht; rw [h] at ht; cases ht
    · intro t ht hrx'; rw [hv]; exact hi.txn t (h ▸ ht) (hrx hrx')
    · intro t ht _; rw [h] at ht; cases ht; rw [hv]; rfl
    · exact c07_inv_op s s' o r hi.txn h
  case txn_nr =>
    rcases hg.txn_moves with h | ⟨h, _, _⟩ | ⟨_, h⟩ | ⟨o, r, h⟩
    · intro t ht; rw [h] at ht; cases ht
    · intro t ht; exact hi.txn_nr t (h ▸ ht)
    · intro t ht; rw [h] at ht; cases ht; intro d hd; cases hd
    · exact txnOp_no_reset s s' o r h hi.txn_nr
  case subs =>
    intro j r' hj ha
    rcases hg.receivers j r' hj with ⟨r, hr, hal, hb, hn, hrest, hrep⟩ | ⟨_, hn, hrest, hrep⟩
    · -- old receiver: what is owed grew by the new message, which takes the contents to the new contents
      obtain ⟨hnorest, hin_log, rep, hrep0, hreplay⟩ := hi.subs j r hr (hal ha)
      refine ⟨fun h => hrest ▸ hnorest (hb ▸ h), hn ▸ Nat.le_trans hin_log hlen, rep, hrep ▸ hrep0, ?_⟩
      rcases hg.log_grows with ⟨h, hv⟩ | ⟨ds, many, h, _, hrx, hsrc⟩
      · rw [h, owed_congr _ r r' hn hrest, hv (rx_of_alive s' j r' hj ha)]; exact hreplay
      · rw [h, owed_append _ _ _ (hn ▸ hin_log), owed_congr _ r r' hn hrest, applyAll_append, hreplay]
        exact (hsrc.replay hi hrx).1
    · -- new receiver: nothing owed, replica = contents
      exact ⟨fun _ => hrest, Nat.le_of_eq hn, s'.vals, hrep, by rw [owed_caught_up _ _ hrest (Nat.le_of_eq hn.symm)]; rfl⟩
  case last =>
    intro j r' hj ha hlt
    rcases hg.log_grows with ⟨h, hv⟩ | ⟨ds, many, h, _⟩
    · rcases hg.receivers j r' hj with ⟨r, hr, hal, _, hn, _, _⟩ | ⟨_, hn, _⟩
      · rw [h, hv (rx_of_alive s' j r' hj ha)]; exact hi.last j r hr (hal ha) (by rw [← hn, ← h]; exact hlt)
      · exact absurd (hn ▸ hlt) (Nat.lt_irrefl _)
    · rw [h]; simp

theorem vinv_set_sub {α} (s : OV α) (hi : VInv s) (i : Nat) (r r' : Sub α) (hs : s.subs[i]? = some r) (ha : r.alive = true)
    (ha' : r'.alive = true) (hnext_le : r.next ≤ r'.next) (hin_log : r'.next ≤ s.log.length)
    (hnorest : r'.batched = true → r'.rest = [])
    (hrep : ∃ rep, r'.replica = some rep ∧ applyAll (owed s.log r') rep = some s.vals) :
    VInv { s with subs := s.subs.set i r' } := by
  refine ⟨hi.window, hi.no_reset, hi.no_empty, ?txn, hi.txn_nr, ?subs, ?last⟩
  case txn =>
    intro t ht hrx
    exact hi.txn t ht (rxCount_set_sub s i r r' hs (ha'.trans ha.symm) ▸ hrx)
  case subs =>
    intro j rj hj haj
    rcases getElem?_set_cases hj with ⟨_, rfl⟩ | ⟨_, hj⟩
    · exact ⟨hnorest, hin_log, hrep⟩
    · exact hi.subs j rj hj haj
  case last =>
    intro j rj hj haj hlt
    rcases getElem?_set_cases hj with ⟨_, rfl⟩ | ⟨_, hj⟩
    · exact hi.last i r hs ha (Nat.lt_of_le_of_lt hnext_le hlt)
    · exact hi.last j rj hj haj hlt

/-- receiver `i` (`r`, replica `rep`, in `s`) was polled, answered `it`, and is `r'` in `s'` -/
structure Polled {α} (s s' : OV α) (i : Nat) (it : Item α) (r r' : Sub α) (rep : List α) : Prop where
  sub : s.subs[i]? = some r
  alive : r.alive = true
  state_eq : s' = { s with subs := s.subs.set i r' }
  sub' : s'.subs[i]? = some r'
  alive' : r'.alive = true
  batched : r'.batched = r.batched
  norest' : r'.batched = true → r'.rest = []
  next_le : r.next ≤ r'.next
  in_log : r'.next ≤ s.log.length
  log_eq : s'.log = s.log
  vals_eq : s'.vals = s.vals
  window_eq : s'.B = s.B
  replica : r.replica = some rep
  replays : applyAll (owed s.log r) rep = some s.vals
  replica' : r'.replica = ghostRep it (some rep)
  no_panic : it ≠ .panic
  /-- nothing owed, nothing handed out; or the front `ds` of what is owed, receiver not lagged; or, lagged, a `Reset` to
      the contents, after which nothing is owed -/
  outcome :
    (it = .pending ∧ s.alive = true ∨ it = .done ∧ s.alive = false) ∧ owed s.log r = [] ∧ owed s.log r' = [] ∨
    (∃ ds, (it = .batch ds ∨ ∃ d, it = .one d ∧ ds = [d]) ∧ ¬ (r.rest = [] ∧ r.next + s.B < s.log.length) ∧
      owed s.log r = ds ++ owed s.log r') ∨
    ((it = .one (.reset s.vals) ∨ it = .batch [.reset s.vals]) ∧ r.rest = [] ∧ r.next + s.B < s.log.length ∧
      owed s.log r' = [])

theorem polled_of_poll {α} (s s' : OV α) (i : Nat) (it : Item α) (hi : VInv s) (h : s.poll i = some (it, s')) :
    ∃ r r' rep, Polled s s' i it r r' rep := by
  obtain ⟨r, r0, hs, ha, hp, rfl⟩ := OV.poll_rule h
  obtain ⟨hnorest, hin_log, rep, hrep, hreplay⟩ := hi.subs i r hs ha
  obtain ⟨halive, hbatched, hreplica, hnext_le, hin_log'⟩ := hp.frame hin_log
  obtain ⟨hnorest', hd⟩ := hp.delivers hi.window hi.no_empty hnorest
  refine ⟨r, { r0 with replica := ghostRep it r0.replica }, rep,
    { sub := hs, alive := ha, state_eq := rfl, sub' := getElem?_set_self_of_getElem? _ hs,
      alive' := halive.trans ha, batched := hbatched, norest' := fun hb => hnorest' (hbatched ▸ hb),
      next_le := hnext_le, in_log := hin_log', log_eq := rfl, vals_eq := rfl, window_eq := rfl,
      replica := hrep, replays := hreplay, replica' := by simp only [hreplica, hrep],
      no_panic := fun e => (e ▸ hp).of_panic hi.window hi.no_empty, outcome := ?_ }⟩
  rcases hd with ⟨hend, ho, ho'⟩ | ⟨ds, hds, hnl, ho⟩ | ⟨m, hm, hrest, hlag, hlast, ho'⟩
  · exact .inl ⟨by simpa using hend, ho, ho'⟩
  · exact .inr (.inl ⟨ds, hds, hnl, ho⟩)
  · refine .inr (.inr ⟨?_, hrest, hlag, ho'⟩)
    rw [hm, hi.last_state hs ha (by omega) hlast]; exact resetItem_cases ..

theorem Polled.replays' {α} {s s' : OV α} {i : Nat} {it : Item α} {r r' : Sub α} {rep : List α} (hp : Polled s s' i it r r' rep) :
    ∃ rep', r'.replica = some rep' ∧ applyAll (owed s.log r') rep' = some s.vals := by
  rw [hp.replica']
  have hreplay := hp.replays
  rcases hp.outcome with ⟨hend, ho, ho'⟩ | ⟨ds, hds, -, ho⟩ | ⟨hres, -, -, ho'⟩
  · refine ⟨rep, ?_, by rw [ho']; rw [ho] at hreplay; exact hreplay⟩
    rcases hend with ⟨rfl, _⟩ | ⟨rfl, _⟩ <;> rfl
  · obtain ⟨mid, hpass, -, hreplay'⟩ := owed_pass ds hp.replica hreplay ho
    exact ⟨mid, (ghostRep_of_carries hds _).trans hpass, hreplay'⟩
  · refine ⟨s.vals, ?_, by rw [ho']; rfl⟩
    rcases hres with rfl | rfl
    · exact ghostRep_resetItem false _ _
    · exact ghostRep_resetItem true _ _

theorem Polled.synced' {α} {s s' : OV α} {i : Nat} {it : Item α} {r r' : Sub α} {rep : List α} (hp : Polled s s' i it r r' rep)
    (ho' : owed s.log r' = []) : r'.replica = some s.vals := by
  obtain ⟨rep', hrep', hreplay'⟩ := hp.replays'
  rw [ho'] at hreplay'
  exact hrep'.trans hreplay'

theorem vinv_poll {α} (s s' : OV α) (i : Nat) (it : Item α) (hi : VInv s) (h : s.poll i = some (it, s')) : VInv s' := by
  obtain ⟨r, r', rep, hp⟩ := polled_of_poll s s' i it hi h
  rw [hp.state_eq]
  exact vinv_set_sub s hi i r r' hp.sub hp.alive hp.alive' hp.next_le hp.in_log hp.norest' hp.replays'

/-- **The invariant is preserved by every event.** -/
theorem vinv_vstep {α} (s : OV α) (e : VEv α) (hi : VInv s) : VInv (s.vstep e) := by
  refine vstep_of_single s e (fun u e' ha _ hu => ?_) hi
  rcases vstep_cases u e' hu.txn ha with hg | ⟨i, it, _, hp⟩
  · exact vinv_grow hu hg
  · exact vinv_poll u _ i it hu hp

/-- to show something preserved by every event, in states satisfying the invariant: show it for what grows the world and
    for a poll (`vstep_of_single` with `vstep_cases`) -/
theorem vstep_ind {α} {P : OV α → Prop} (grow : ∀ u u', VInv u → Grow u u' → P u → P u') (s : OV α) (e : VEv α)
    (hi : VInv s) (hs : P s) (poll : ∀ i it, e = .poll i → s.poll i = some (it, s.vstep e) → P (s.vstep e)) :
    P (s.vstep e) := by
  refine (vstep_of_single (P := fun u => VInv u ∧ P u) s e (fun u e' ha hc hu => ⟨vinv_vstep u e' hu.1, ?_⟩) ⟨hi, hs⟩).2
  rcases vstep_cases u e' hu.1.txn ha with hg | ⟨i, it, he, hp⟩
  · exact grow u _ hu.1 hg hu.2
  · rcases hc with ⟨rfl, rfl⟩ | hne
    · exact poll i it he hp
    · exact absurd he (hne i)

theorem vinv_run {α} (c : Nat) (hc : c ≤ 2 ^ 64) (evs : List (VEv α)) : VInv (evs.foldl OV.vstep (OV.new c)) :=
  foldl_preserves VInv _ vinv_vstep evs _ (vinv_new c hc)

/-- every diff waiting in a plain receiver's `YieldBatch` remainder comes out of a message of the log -/
def RestIn {α} (s : OV α) : Prop :=
  ∀ (i : Nat) (r : Sub α), s.subs[i]? = some r → ∀ d ∈ r.rest, ∃ m ∈ s.log, d ∈ m.diffs

theorem restIn_poll {α} (s s' : OV α) (i : Nat) (it : Item α) (hi : RestIn s) (h : s.poll i = some (it, s')) :
    RestIn s' := by
  obtain ⟨r, r0, hs, _, hp, rfl⟩ := OV.poll_rule h
  intro j r' hj d hd
  rcases getElem?_set_cases hj with ⟨rfl, rfl⟩ | ⟨_, hj⟩
  · change d ∈ r0.rest at hd
    -- two rules touch the remainder: it loses its head, or is refilled from the message received
    cases hp with
    | rest d0 ds _ hr => exact hi j r hs d (by rw [hr]; exact List.mem_cons_of_mem _ hd)
    | one m d0 ds _ _ _ hm hdm => exact ⟨m, List.mem_of_getElem? hm, by rw [hdm]; exact List.mem_cons_of_mem _ hd⟩
    | _ => exact hi j r hs d hd
  · exact hi j r' hj d hd

theorem restIn_grow {α} {s s' : OV α} (hi : RestIn s) (hg : Grow s s') : RestIn s' := by
  intro j r' hj d hd
  rcases hg.receivers j r' hj with ⟨r, hr, _, _, _, hrest, _⟩ | ⟨_, _, hrest, _⟩
  · obtain ⟨m, hm, hdm⟩ := hi j r hr d (hrest ▸ hd)
    refine ⟨m, ?_, hdm⟩
    rcases hg.log_grows with ⟨h, _⟩ | ⟨ds, many, h, _⟩ <;> simp [h, hm]
  · rw [hrest] at hd; cases hd

theorem restIn_vstep {α} (s : OV α) (e : VEv α) (hv : VInv s) (hi : RestIn s) : RestIn (s.vstep e) :=
  vstep_ind (fun _ _ _ hg h => restIn_grow h hg) s e hv hi fun i it _ hp => restIn_poll s _ i it hi hp

theorem restIn_run {α} (c : Nat) (hc : c ≤ 2 ^ 64) (evs : List (VEv α)) : RestIn (evs.foldl OV.vstep (OV.new c)) :=
  (foldl_preserves (fun s => VInv s ∧ RestIn s) _ (fun s e h => ⟨vinv_vstep s e h.1, restIn_vstep s e h.1 h.2⟩) evs _
    ⟨vinv_new c hc, by intro i r h; simp [OV.new] at h⟩).2

end EV
