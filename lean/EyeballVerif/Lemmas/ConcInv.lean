/-
  The invariant of the lock-level model (`WInv`), for any number of threads. `CS.adv` is analysed once: `adv_seg` summarises
  a segment in the invariant's own terms (`Seg`); by `winv_seg` any step meeting the summary keeps the invariant.
-/
import EyeballVerif.Model.Conc
import EyeballVerif.Lemmas.ListExtra
namespace EV

def Pc.holdsRead : Pc → Bool
  | .pollBeforeMeta | .pollHoldingMeta | .pollAfterCheck _ | .closeBeforeMeta | .closeHoldingMeta => true
  | _ => false
def Pc.holdsWrite : Pc → Bool
  | .writeBeforeNotify _ | .writeAfterNotify _ => true
  | _ => false
def Pc.holdsMeta : Pc → Bool
  | .pollHoldingMeta | .pollAfterCheck _ | .closeHoldingMeta => true
  | _ => false
/-- a subscriber task that has been told `Pending` (or is about to be) and has not been woken -/
def Th.parked (th : Th) : Bool :=
  th.op == .poll && !th.woken && (th.pc == .pollAfterCheck .pending || (th.pc == .finished && th.res == .poll .pending))
/-- the thread's call holds a clone that is counted in the clone counter -/
def Th.holdsClone (th : Th) : Bool :=
  match th.op with
  | .set _ | .get | .sne _ | .update _ => true
  | .dropClone => th.pc == .start
  | .upgrade => th.res == .upgraded true
  | .poll | .nextNow => false
/-- a dropping thread that found itself to be the last clone and has not closed the state yet -/
def Th.closing (th : Th) : Bool := th.op == .dropClone && (th.pc == .closeBeforeMeta || th.pc == .closeHoldingMeta)
/-- holds a state reference beyond its clone-counter reference -/
def Th.extraState (th : Th) : Bool :=
  (th.op == .upgrade && th.pc == .upgradeBetween) ||
  (th.op == .dropClone && (th.pc == .closeBeforeMeta || th.pc == .closeHoldingMeta || th.pc matches .dropAfterDecision _))

-- `closing` and `extraState` as tables over call and position: on a constructor term `simp` evaluates them in one step
theorem Th.closing_eq (th : Th) : th.closing = match th.op, th.pc with
    | .dropClone, .closeBeforeMeta | .dropClone, .closeHoldingMeta => true
    | _, _ => false := by
  obtain ⟨op, pc, _, _, _⟩ := th; cases op <;> (try rfl) <;> cases pc <;> rfl

theorem Th.extraState_eq (th : Th) : th.extraState = match th.op, th.pc with
    | .upgrade, .upgradeBetween | .dropClone, .closeBeforeMeta | .dropClone, .closeHoldingMeta
    | .dropClone, .dropAfterDecision _ => true
    | _, _ => false := by
  obtain ⟨op, pc, _, _, _⟩ := th; cases op <;> (try rfl) <;> cases pc <;> rfl

-- `woken := true`: waking an id that is no thread changes nothing, so `Seg.thAt_ne` holds of every id
def idle : Th := { op := .poll, pc := .start, observed := 0, woken := true, res := .none }
def CS.thAt (s : CS) (t : Nat) : Th := (s.ths[t]?).getD idle

structure WInv (s : CS) : Prop where
  readers_iff : ∀ t, t ∈ s.readers ↔ (t < s.ths.length ∧ (s.thAt t).pc.holdsRead = true)
  readers_nodup : s.readers.Nodup
  writer_iff : ∀ t, s.writer = some t ↔ (t < s.ths.length ∧ (s.thAt t).pc.holdsWrite = true)
  meta_iff : ∀ t, s.metaHeld = some t ↔ (t < s.ths.length ∧ (s.thAt t).pc.holdsMeta = true)
  excl : s.writer.isSome = true → s.readers = []
  reg_ok : ∀ t ∈ s.wakers, s.version ≠ 0 ∧ t < s.ths.length ∧ (s.thAt t).op = .poll ∧ s.version ≤ (s.thAt t).observed
  parked_ok : ∀ t, t < s.ths.length → (s.thAt t).parked = true → t ∈ s.wakers
  atomic : s.atomicDrop = true
  closed_no_owner : s.version = 0 → s.ncStrong = 0
  owner_or_closing : s.ncStrong = 0 → s.version = 0 ∨ ∃ t, t < s.ths.length ∧ (s.thAt t).closing = true
  closing_nc : ∀ t, t < s.ths.length → (s.thAt t).closing = true → s.ncStrong = 0
  holders_le : s.ths.countP Th.holdsClone ≤ s.ncStrong
  st_ok : s.ncStrong + s.ths.countP Th.extraState ≤ s.stStrong
  /-- no thread has observed a version that does not exist yet -/
  obs_le : ∀ t, t < s.ths.length → s.version ≠ 0 → (s.thAt t).observed ≤ s.version

theorem thAt_of_getElem? {s : CS} {t : Nat} {th : Th} (h : s.ths[t]? = some th) : s.thAt t = th ∧ t < s.ths.length := by
  constructor
  · simp [CS.thAt, h]
  · rcases List.getElem?_eq_some_iff.mp h with ⟨h1, _⟩; exact h1

theorem WInv.no_writer_of_reader {s : CS} {t : Nat} (hi : WInv s) (h : t ∈ s.readers) : s.writer = none := by
  cases hw : s.writer with
  | none => rfl
  | some w => exact absurd (hi.excl (by simp [hw])) (List.ne_nil_of_mem h)

theorem getElem?_thAt {s : CS} {t : Nat} (ht : t < s.ths.length) : s.ths[t]? = some (s.thAt t) := by
  simp [CS.thAt, ht]

theorem countP_wakeAll (p : Th → Bool) (hp : ∀ th, p { th with woken := true } = p th) (ths : List Th) (wk : List Nat) :
    (wakeAll ths wk).countP p = ths.countP p := by
  -- the two lists have the same `p`-images, entry by entry
  have e : ∀ l : List Th, l.countP p = (l.map p).countP id := fun l => by rw [List.countP_map]; rfl
  rw [e, e]; congr 1
  apply List.ext_getElem?; intro i
  simp only [wakeAll, List.getElem?_map, List.getElem?_mapIdx]
  cases ths[i]? <;> simp; split <;> simp [hp]

theorem getElem?_wakeAll (ths : List Th) (wk : List Nat) (u : Nat) :
    (wakeAll ths wk)[u]? = ths[u]?.map fun th => if wk.contains u then { th with woken := true } else th := by
  simp only [wakeAll, List.getElem?_mapIdx]

theorem wakeAll_length (ths : List Th) (wk : List Nat) : (wakeAll ths wk).length = ths.length := by simp [wakeAll]

/-- the value a segment stores, if it is the segment in which a writing call takes the write lock and replaces the
    value: `set v` always, `set_if_not_eq v` when `v` differs from the current value, `update` always -/
def CS.storeOf (s : CS) (t : Nat) : Option Nat :=
  match s.ths[t]? with
  | some th =>
    if th.pc == .start then
      match th.op with
      | .set v => some v
      | .sne v => if s.value = v then none else some v
      | .update k => some (s.value + k)
      | _ => none
    else none
  | none => none

def CS.isStore (s : CS) (t : Nat) : Bool := (s.storeOf t).isSome

/-- holders of a shared lock after a step of `t`: `had` / `has` — `t` held it before / holds it after -/
def holdUpd (had has : Bool) (t : Nat) (l : List Nat) : List Nat :=
  if had = has then l else if has then t :: l else l.erase t

/-- the same for a lock with at most one holder -/
def ownUpd (had has : Bool) (t : Nat) (o : Option Nat) : Option Nat :=
  if had = has then o else if has then some t else none

/-- One segment of thread `t` (record `th` → `th'`) as far as `WInv` and the value theorems of C04 can see: the locks follow
    what the thread holds before and after, and were free when taken; version and wakers change in one of three ways, the two
    counts in one of five; the value is the one stored, if the segment is a store. -/
structure Seg (s : CS) (t : Nat) (th th' : Th) (s' : CS) : Prop where
  op : th'.op = th.op
  readers : s'.readers = holdUpd th.pc.holdsRead th'.pc.holdsRead t s.readers
  writer : s'.writer = ownUpd th.pc.holdsWrite th'.pc.holdsWrite t s.writer
  metaHeld : s'.metaHeld = ownUpd th.pc.holdsMeta th'.pc.holdsMeta t s.metaHeld
  rd_free : th.pc.holdsRead = false → th'.pc.holdsRead = true → s.writer = none
  wr_free : th.pc.holdsWrite = false → th'.pc.holdsWrite = true → s.writer = none ∧ s.readers = []
  mt_free : th.pc.holdsMeta = false → th'.pc.holdsMeta = true → s.metaHeld = none
  atomicDrop : s'.atomicDrop = s.atomicDrop
  wake :
    -- nothing happens to version and wakers; `observed` stays or moves to the version
    (s'.version = s.version ∧ s'.wakers = s.wakers ∧ s'.ths = s.ths.set t th' ∧ (th'.parked = true → th.parked = true) ∧
      -- (from where it moves there — from below, or by `next_now` — is for `c04_observed_monotone` alone)
      (th'.observed = th.observed ∨ th'.observed = s.version ∧ (th.observed < s.version ∨ th.op = .nextNow))) ∨
    -- a subscriber that has seen the current version registers
    (s'.version = s.version ∧ s'.wakers = s.wakers ++ [t] ∧ s'.ths = s.ths.set t th' ∧ th.op = .poll ∧ s.version ≠ 0 ∧
      s.version ≤ th.observed ∧ th'.observed = th.observed) ∨
    -- a writer (it holds a clone) bumps the version, or the closing thread resets it: everybody registered is woken
    ((s'.version = s.version + 1 ∧ th.holdsClone = true ∨ s'.version = 0 ∧ th.closing = true) ∧ s'.wakers = [] ∧
      s'.ths = (wakeAll s.ths s.wakers).set t th' ∧ th'.parked = false ∧ th'.observed = th.observed)
  -- what `owner_or_closing` needs of a closing thread
  closing_done : th.closing = true → th'.closing = true ∨ s'.version = 0
  -- repaired drop protocol only: under the original one the thread's clone status does not follow the counter
  count : s.atomicDrop = true →
    (s'.ncStrong = s.ncStrong ∧ s'.stStrong = s.stStrong ∧ (th'.holdsClone = true → th.holdsClone = true) ∧ th'.extraState = th.extraState ∧
      (th'.closing = true → th.closing = true)) ∨
    -- a clone gives up its clone-counter reference; the last one goes on to close
    (s'.ncStrong = s.ncStrong - 1 ∧ s'.stStrong = s.stStrong ∧ th.holdsClone = true ∧ th'.holdsClone = false ∧
      th.extraState = false ∧ th'.extraState = true ∧ (th'.closing = true ↔ s.ncStrong = 1)) ∨
    -- a state reference is released / taken
    (s'.ncStrong = s.ncStrong ∧ s'.stStrong = s.stStrong - 1 ∧ th.extraState = true ∧ th'.extraState = false ∧
      th'.holdsClone = false ∧ th'.closing = false) ∨
    (s'.ncStrong = s.ncStrong ∧ s'.stStrong = s.stStrong + 1 ∧ th.extraState = false ∧ th'.extraState = true ∧
      (th'.holdsClone = true → th.holdsClone = true) ∧ th'.closing = false) ∨
    -- an upgrade joins the clone counter, which is possible only while it is not zero
    (s.ncStrong ≠ 0 ∧ s'.ncStrong = s.ncStrong + 1 ∧ s'.stStrong = s.stStrong ∧ th.extraState = true ∧ th'.extraState = false ∧
      th'.closing = false)
  value : s'.value = (s.storeOf t).getD s.value

/-- `h : (the body of CS.adv at a thread whose record is a constructor term) = some s'`: one goal per arm of `CS.adv` that
    moves, with `s'` replaced by the state the arm returns. Under the `match` on call and pc the arms nest at most three `if`s. -/
macro "adv_arms " h:ident : tactic =>
  `(tactic| (split at $h:ident <;> (try (split at $h:ident)) <;> (try (split at $h:ident)) <;> (try (split at $h:ident)) <;>
      simp only [Option.some.injEq, reduceCtorEq] at $h:ident <;> (try subst $h:ident)))

theorem adv_seg (s s' : CS) (t : Nat) (h : s.adv t = some s') :
    t < s.ths.length ∧ Seg s t (s.thAt t) (s'.thAt t) s' := by
  unfold CS.adv at h
  cases hth : s.ths[t]? with
  | none => simp [hth] at h
  | some th =>
    obtain ⟨hthe, ht⟩ := thAt_of_getElem? hth
    simp only [hth] at h
    rw [hthe]
    refine ⟨ht, ?_⟩
    -- record taken apart, new record read off once below: every field closes on constructor terms (much cheaper to check)
    obtain ⟨op, pc, obs, wkn, res⟩ := th
    dsimp only at h
    adv_arms h
    all_goals (try simp only [Bool.or_eq_true, not_or, Bool.not_eq_true, Option.isSome_eq_false_iff, Option.isNone_iff_eq_none,
      Bool.not_eq_eq_eq_not, Bool.not_true, Bool.not_eq_false, List.isEmpty_iff, Nat.not_lt, beq_iff_eq] at *)
    all_goals simp only [CS.thAt, List.getElem?_set_self, ht, wakeAll_length, Option.getD_some]
    all_goals clear ht  -- `simp` would turn the `s.ths[t]?` of `storeOf` into `s.ths[t]` before `hth` applies
    -- `op`, the three locks and `atomicDrop` are read off; the other fields need the hypotheses of the case
    all_goals (
      refine ⟨rfl, rfl, rfl, rfl, ?_, ?_, ?_, rfl, ?_, ?_, ?_, ?_⟩ <;>
      simp [*, CS.storeOf, Pc.holdsRead, Pc.holdsWrite, Pc.holdsMeta, Th.parked, Th.holdsClone, Th.closing_eq,
        Th.extraState_eq, Bool.beq_eq_decide_eq])

section
variable {s s' : CS} {t : Nat} {th th' : Th}

theorem Seg.len (g : Seg s t th th' s') : s'.ths.length = s.ths.length := by
  rcases g.wake with h | h | h <;> simp [h, wakeAll_length]

theorem Seg.thAt_ne (g : Seg s t th th' s') {u : Nat} (hu : u ≠ t) :
    (s'.thAt u = s.thAt u ∧ (u ∈ s.wakers → u ∈ s'.wakers)) ∨
    (s'.wakers = [] ∧ s'.thAt u = { s.thAt u with woken := true }) := by
  rcases g.wake with h | h | h
  · left; simp [CS.thAt, h, Ne.symm hu]
  · left; simp +contextual [CS.thAt, h, Ne.symm hu]
  · simp only [CS.thAt, h, List.getElem?_set, Ne.symm hu, if_false, getElem?_wakeAll]
    by_cases hw : u ∈ s.wakers
    · -- woken if it is a thread; if not, both sides are `idle`, which is woken already
      right; refine ⟨trivial, ?_⟩
      cases s.ths[u]? <;> simp [hw, idle]
    · left; simp [hw]

theorem Seg.frame (g : Seg s t th th' s') {u : Nat} (hu : u ≠ t) {β : Type} (f : Th → β)
    (hf : ∀ th, f { th with woken := true } = f th) : f (s'.thAt u) = f (s.thAt u) := by
  rcases g.thAt_ne hu with ⟨e, _⟩ | ⟨_, e⟩ <;> rw [e]
  exact hf _

theorem Seg.woken (g : Seg s t th th' s') (h0 : s'.wakers = []) {u : Nat} (hu : u ∈ s.wakers) (hut : u ≠ t) :
    (s'.thAt u).woken = true := by
  rcases g.thAt_ne hut with ⟨_, hk⟩ | ⟨_, e⟩
  · rw [h0] at hk; cases hk hu
  · rw [e]

theorem Seg.countP (g : Seg s t (s.thAt t) th' s') (ht : t < s.ths.length) (p : Th → Bool)
    (hp : ∀ th, p { th with woken := true } = p th) :
    s'.ths.countP p + (if p (s.thAt t) then 1 else 0) = s.ths.countP p + (if p th' then 1 else 0) := by
  have hth := getElem?_thAt ht
  rcases g.wake with ⟨-, -, e, -⟩ | ⟨-, -, e, -⟩ | ⟨-, -, e, -⟩ <;> rw [e]
  · exact countP_set_of_getElem? hth th'
  · exact countP_set_of_getElem? hth th'
  · rw [← countP_wakeAll p hp s.ths s.wakers]
    have hw : (wakeAll s.ths s.wakers)[t]? =
        some (if s.wakers.contains t then { s.thAt t with woken := true } else s.thAt t) := by
      rw [getElem?_wakeAll, hth]; rfl
    have := countP_set_of_getElem? (p := p) hw th'
    split at this <;> simpa [hp] using this
end

theorem adv_op (s s' : CS) (t : Nat) (h : s.adv t = some s') (u : Nat) : (s'.thAt u).op = (s.thAt u).op := by
  obtain ⟨_, g⟩ := adv_seg s s' t h
  by_cases hut : u = t
  · subst hut; exact g.op
  · exact g.frame hut (·.op) fun _ => rfl

theorem mem_holdUpd {had has : Bool} {t : Nat} {l : List Nat} (hn : l.Nodup) (hm : t ∈ l ↔ had = true) (u : Nat) :
    u ∈ holdUpd had has t l ↔ if u = t then has = true else u ∈ l := by
  unfold holdUpd
  by_cases hu : u = t
  · subst hu; cases had <;> cases has <;> simp_all [hn.mem_erase_iff]
  · cases had <;> cases has <;> simp [hu, List.mem_erase_of_ne]

theorem nodup_holdUpd {had has : Bool} {t : Nat} {l : List Nat} (hn : l.Nodup) (hm : t ∈ l ↔ had = true) :
    (holdUpd had has t l).Nodup := by
  unfold holdUpd
  cases had <;> cases has <;> simp_all [hn.erase]

theorem ownUpd_eq_some_iff {had has : Bool} {t : Nat} {o : Option Nat} (hm : o = some t ↔ had = true)
    (hfree : had = false → has = true → o = none) (u : Nat) :
    ownUpd had has t o = some u ↔ if u = t then has = true else o = some u := by
  unfold ownUpd
  by_cases hu : u = t
  · subst hu; cases had <;> cases has <;> simp_all
  · cases had <;> cases has <;> simp_all <;> exact Ne.symm hu

theorem winv_seg {s s' : CS} {t : Nat} (hi : WInv s) (ht : t < s.ths.length) (g : Seg s t (s.thAt t) (s'.thAt t) s') :
    WInv s' := by
  have hlen := g.len
  have hr := hi.readers_iff t; have hw := hi.writer_iff t; have hm := hi.meta_iff t
  simp only [ht, true_and] at hr hw hm
  have hnc := hi.closing_nc t ht
  have hc := g.countP ht Th.holdsClone (fun _ => rfl)
  have hx := g.countP ht Th.extraState (fun _ => rfl)
  have hcpos : (s.thAt t).holdsClone = true → 0 < s.ths.countP Th.holdsClone := countP_pos_of_getElem? (getElem?_thAt ht)
  have hxpos : (s.thAt t).extraState = true → 0 < s.ths.countP Th.extraState := countP_pos_of_getElem? (getElem?_thAt ht)
  have hclosed := hi.closed_no_owner; have hholders := hi.holders_le; have hstate := hi.st_ok
  -- a holder of a clone keeps the observable open: a writer's bump never starts from version 0
  have hopen : (s.thAt t).holdsClone = true → s.version ≠ 0 := fun h hv => by
    have := hcpos h; have := hclosed hv; omega
  have hk := g.count hi.atomic
  -- the clone counter never leaves 0: an upgrade joins it only while it is not 0
  have hn0 : s.ncStrong = 0 → s'.ncStrong = 0 := fun h => by rcases hk with k | k | k | k | k <;> omega
  constructor
  case readers_iff =>
    intro u
    rw [g.readers, mem_holdUpd hi.readers_nodup hr, hlen]
    by_cases hu : u = t
    · subst hu; simp [ht]
    · simp only [hu, if_false, g.frame hu (·.pc) (fun _ => rfl)]; exact hi.readers_iff u
  case readers_nodup => rw [g.readers]; exact nodup_holdUpd hi.readers_nodup hr
  case writer_iff =>
    intro u
    rw [g.writer, ownUpd_eq_some_iff hw (fun a b => (g.wr_free a b).1), hlen]
    by_cases hu : u = t
    · subst hu; simp [ht]
    · simp only [hu, if_false, g.frame hu (·.pc) (fun _ => rfl)]; exact hi.writer_iff u
  case meta_iff =>
    intro u
    rw [g.metaHeld, ownUpd_eq_some_iff hm g.mt_free, hlen]
    by_cases hu : u = t
    · subst hu; simp [ht]
    · simp only [hu, if_false, g.frame hu (·.pc) (fun _ => rfl)]; exact hi.meta_iff u
  case excl =>
    -- a new writer found no reader (`wr_free`), a new reader no writer (`rd_free`)
    have hwr : ∀ pc : Pc, pc.holdsWrite = true → pc.holdsRead = false := by
      intro pc; cases pc <;> simp [Pc.holdsWrite, Pc.holdsRead]
    have := hi.excl; have := g.rd_free; have := g.wr_free; have := hwr (s.thAt t).pc; have := hwr (s'.thAt t).pc
    rw [g.writer, g.readers]; unfold ownUpd holdUpd
    grind
  case reg_ok =>
    intro u hu
    rw [hlen]
    have hreg : ∀ u ∈ s.wakers, s'.version = s.version →
        (u = t → (s'.thAt t).observed = (s.thAt t).observed ∨ (s'.thAt t).observed = s.version) →
        s'.version ≠ 0 ∧ u < s.ths.length ∧ (s'.thAt u).op = .poll ∧ s'.version ≤ (s'.thAt u).observed := by
      intro u hu hv ho
      have := hi.reg_ok u hu
      by_cases hut : u = t
      · subst hut; rw [g.op, hv]
        rcases ho rfl with e | e <;> rw [e] <;> simp [this]
      · rw [g.frame hut (·.op) (fun _ => rfl), g.frame hut (·.observed) (fun _ => rfl), hv]; exact this
    rcases g.wake with ⟨hv, hwk, _, _, hob⟩ | ⟨hv, hwk, _, hop, hv0, hle, hob⟩ | ⟨_, hwk, _⟩
    · exact hreg u (hwk ▸ hu) hv (fun _ => hob.imp_right (·.1))
    · rw [hwk] at hu
      rcases List.mem_append.mp hu with hu | hu
      · exact hreg u hu hv (fun _ => .inl hob)
      · cases List.mem_singleton.mp hu; rw [g.op, hv, hob]; exact ⟨hv0, ht, hop, hle⟩
    · rw [hwk] at hu; cases hu
  case parked_ok =>
    intro u hu hp
    by_cases hut : u = t
    · subst hut
      rcases g.wake with ⟨_, hwk, _, hpk, _⟩ | ⟨_, hwk, _⟩ | ⟨_, _, _, hpk, _⟩
      · rw [hwk]; exact hi.parked_ok u ht (hpk hp)
      · simp [hwk]
      · rw [hpk] at hp; cases hp
    · rcases g.thAt_ne hut with ⟨e, hk⟩ | ⟨_, e⟩
      · rw [e] at hp; exact hk (hi.parked_ok u (hlen ▸ hu) hp)
      · simp only [e] at hp; simp [Th.parked] at hp
  case atomic => rw [g.atomicDrop]; exact hi.atomic
  case closed_no_owner =>
    -- closed before, or closed just now by the closing thread: either way the clone counter was 0
    intro hv
    refine hn0 ?_
    rcases g.wake with ⟨e, _⟩ | ⟨e, _⟩ | ⟨⟨e, _⟩ | ⟨_, hcl⟩, _⟩
    · exact hclosed (e ▸ hv)
    · exact hclosed (e ▸ hv)
    · omega
    · exact hnc hcl
  case owner_or_closing =>
    intro h0
    by_cases hn : s.ncStrong = 0
    · rcases hi.owner_or_closing hn with hv | ⟨u, hu, hcu⟩
      · -- closed stays closed: only a holder of a clone bumps the version, and it keeps the observable open (`hopen`)
        left; have := g.wake; grind
      · by_cases hut : u = t
        · subst hut
          exact (g.closing_done hcu).symm.imp_right fun h => ⟨u, hlen ▸ hu, h⟩
        · exact .inr ⟨u, hlen ▸ hu, (g.frame hut Th.closing fun _ => rfl) ▸ hcu⟩
    · -- counter just reached 0: the acting thread took it there from 1, and goes on to close
      refine .inr ⟨t, hlen ▸ ht, ?_⟩; grind
  case closing_nc =>
    intro u hu hcu
    by_cases hut : u = t
    · -- closing after the step: it was before (`hnc`), or has just taken the counter from 1 to 0
      subst hut; grind
    · rw [g.frame hut Th.closing fun _ => rfl] at hcu; exact hn0 (hi.closing_nc u (hlen ▸ hu) hcu)
  case holders_le =>
    -- `hc`: the holder count moves with the acting thread's status; every alternative of `count` moves the counter alike
    -- (down only from > 0: `hcpos`)
    grind
  case st_ok =>
    -- `hx`: the same for the extra state references (`hxpos`)
    grind
  case obs_le =>
    -- a bumped version was not 0 (`hopen`), so the bound held before; `observed` moves at most up to the version
    intro u hu hv
    have ho := hi.obs_le u (hlen ▸ hu)
    have := g.wake
    by_cases hut : u = t
    · subst hut; grind
    · rw [g.frame hut (·.observed) fun _ => rfl]; grind

theorem winv_adv (s s' : CS) (t : Nat) (hi : WInv s) (h : s.adv t = some s') : WInv s' :=
  have ⟨ht, g⟩ := adv_seg s s' t h
  winv_seg hi ht g

def COp.needsClone : COp → Bool
  | .set _ | .get | .dropClone | .sne _ | .update _ => true
  | _ => false

theorem countP_init_holds (b : Bool) (v c n : Nat) (ops : List (COp × Bool)) :
    (CS.init b v c n ops).ths.countP Th.holdsClone = (ops.filter fun p => p.1.needsClone).length := by
  simp only [CS.init, List.countP_map]
  rw [List.countP_eq_length_filter]
  congr 2; funext ⟨op, fresh⟩; cases op <;> rfl

theorem countP_init_extra (b : Bool) (v c n : Nat) (ops : List (COp × Bool)) :
    (CS.init b v c n ops).ths.countP Th.extraState = 0 := by
  simp only [CS.init, List.countP_map]
  exact List.countP_eq_zero.mpr fun p _ => by simp [Th.extraState_eq]

/-- the initial state satisfies the invariant, provided every thread whose call needs a clone has one -/
theorem winv_init (v c n : Nat) (ops : List (COp × Bool)) (hc : 1 ≤ c)
    (hh : (ops.filter fun p => p.1.needsClone).length ≤ c) : WInv (CS.init true v c n ops) := by
  -- `hc`: open at the start (version 1), so an owner must exist; `n` is free
  -- every thread is at `start`: nobody holds a lock, is parked or is closing
  have hth : ∀ t, ((CS.init true v c n ops).thAt t).pc = .start ∧ ((CS.init true v c n ops).thAt t).observed ≤ 1 := by
    intro t
    simp only [CS.thAt, CS.init, List.getElem?_map]
    cases ops[t]? with
    | none => exact ⟨rfl, Nat.zero_le _⟩
    | some p => exact ⟨rfl, by simp only [Option.map_some, Option.getD_some]; split <;> omega⟩
  constructor
  case holders_le => rw [countP_init_holds]; exact hh
  case st_ok => rw [countP_init_extra]; simp only [CS.init]; omega
  case obs_le => intro t _ _; exact (hth t).2
  case owner_or_closing => intro (h0 : c = 0); omega
  all_goals (try simp only [hth, Pc.holdsRead, Pc.holdsWrite, Pc.holdsMeta, Th.parked, Th.closing])
  all_goals simp [CS.init]

/-- runs: any schedule (sequence of thread ids; a step that is not enabled is skipped — the thread is blocked) -/
def CS.run (s : CS) (sched : List Nat) : CS :=
  sched.foldl (fun s t => (s.adv t).getD s) s

theorem CS.run_cons (s : CS) (t : Nat) (ts : List Nat) : s.run (t :: ts) = ((s.adv t).getD s).run ts := rfl

theorem winv_run (s : CS) (hi : WInv s) (sched : List Nat) : WInv (s.run sched) :=
  foldl_preserves WInv _ (fun s t hi => getD_ind hi fun s' h => winv_adv s s' t hi h) sched s hi

/-- worlds reachable from a well-formed initial state under any schedule -/
def CReach (s : CS) : Prop :=
  ∃ v c n ops sched, 1 ≤ c ∧ (ops.filter fun (p : COp × Bool) => p.1.needsClone).length ≤ c ∧
    s = (CS.init true v c n ops).run sched

theorem creach_inv {s : CS} (h : CReach s) : WInv s := by
  obtain ⟨v, c, n, ops, sched, h1, h2, rfl⟩ := h
  exact winv_run _ (winv_init v c n ops h1 h2) sched

end EV
