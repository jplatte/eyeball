/-
  imbl's `binary_search_by` loop (as modelled in `Srt.bsLoop` / `Srt.bsearch`) meets its specification on a
  list that is ordered with respect to the probe (`lt* eq* gt*`).
-/
import EyeballVerif.Model.Adapters
namespace EV
open Srt

/-- `l` is ordered w.r.t. the probe `f`: once `gt` always `gt`; before an `lt` only `lt` -/
def Mono {α} (f : α → Ordering) (l : List α) : Prop :=
  ∀ i j, i ≤ j → j < l.length → (probe l f i = .gt → probe l f j = .gt) ∧ (probe l f j = .lt → probe l f i = .lt)

theorem probe_of_lt {α} {l : List α} (f : α → Ordering) {i : Nat} (h : i < l.length) : probe l f i = f l[i] := by
  rw [probe, List.getElem?_eq_getElem h]

/-- `h1`, `h2`: the loop invariant (probe at `base` not `gt`, or nothing probed yet; all `gt` from `base + size` on);
    the conclusion is the invariant at `size = 1` -/
theorem bsLoop_spec {α} (f : α → Ordering) (l : List α) (hm : Mono f l)
    (size base : Nat) (hs : 0 < size) (hb : base + size ≤ l.length)
    (h1 : base = 0 ∨ probe l f base ≠ .gt) (h2 : ∀ j, base + size ≤ j → j < l.length → probe l f j = .gt) :
    let r := bsLoop f l size base
    r < l.length ∧ (r = 0 ∨ probe l f r ≠ .gt) ∧ (∀ j, r + 1 ≤ j → j < l.length → probe l f j = .gt) := by
  induction size using Nat.strongRecOn generalizing base with
  | _ size ih =>
    unfold bsLoop
    by_cases h : size ≤ 1
    · have : size = 1 := by omega
      subst this
      simp only [h, if_true]
      exact ⟨by omega, h1, fun j hj hl => h2 j (by omega) hl⟩
    · simp only [h, if_false]
      -- all the arithmetic needs of `half` (so that `omega` does not meet the division)
      have hhalf : 0 < size / 2 ∧ 2 * (size / 2) ≤ size := ⟨Nat.div_pos (Nat.lt_of_not_le h) (by decide), Nat.mul_div_le size 2⟩
      generalize size / 2 = half at hhalf ⊢
      by_cases hg : probe l f (base + half) = .gt
      · simp only [hg, if_true]
        apply ih (size - half) (by omega) base (by omega) (by omega) h1
        intro j hj hl
        by_cases hjj : base + size ≤ j
        · exact h2 j hjj hl
        · exact (hm (base + half) j (by omega) hl).1 hg
      · simp only [hg, if_false]
        apply ih (size - half) (by omega) (base + half) (by omega) (by omega) (Or.inr hg)
        intro j hj hl
        exact h2 j (by omega) hl

/-- the index returned by `binary_search_by` splits the list: nothing `gt` before it, nothing `lt` from it on -/
theorem bsearch_spec {α} (f : α → Ordering) (l : List α) (hm : Mono f l) :
    let i := (bsearch f l).2
    i ≤ l.length ∧ (∀ j, j < i → probe l f j ≠ .gt) ∧ (∀ j, i ≤ j → j < l.length → probe l f j ≠ .lt) := by
  unfold bsearch
  by_cases h0 : l.length = 0
  · simp [h0]
  · simp only [h0, if_false]
    have hs := bsLoop_spec f l hm l.length 0 (by omega) (by omega) (Or.inl rfl) (by intro j hj hl; omega)
    simp only at hs
    obtain ⟨hr, hr1, hr2⟩ := hs
    generalize bsLoop f l l.length 0 = r at *
    -- nothing is `gt` up to `r` unless `r` itself is
    have key : ∀ j, j ≤ r → probe l f r ≠ .gt → probe l f j ≠ .gt := fun j hj h hgt => h ((hm j r hj hr).1 hgt)
    cases hf : probe l f r with
    | lt =>
      simp only
      exact ⟨by omega, fun j hj => key j (by omega) (by rw [hf]; decide), fun j hj hl => by rw [hr2 j hj hl]; decide⟩
    | eq =>
      simp only
      refine ⟨by omega, fun j hj => key j (by omega) (by rw [hf]; decide), fun j hj hl hlt => ?_⟩
      have := (hm r j hj hl).2 hlt
      rw [hf] at this; cases this
    | gt =>
      simp only
      have : r = 0 := hr1.resolve_right (not_not_intro hf)
      subst this
      refine ⟨by omega, fun j hj => by omega, fun j hj hl hlt => ?_⟩
      rw [(hm 0 j (Nat.zero_le _) hl).1 hf] at hlt; cases hlt

end EV
