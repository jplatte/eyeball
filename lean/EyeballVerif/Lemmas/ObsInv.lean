/-
  The invariant of the observable model (`OInv`) and its preservation by every call (`oinv_step`): a call touches one side
  of the world (subscribers, owners, weak references), and the invariant is rebuilt from that side alone.
-/
import EyeballVerif.Lemmas.ObsBasics
namespace EV
open OWorld

/-! live handles in a list of flags / of subscribers: what the `Arc` counters of `OInv` are compared with -/

def cnt (l : List Bool) : Nat := (l.filter id).length

def subCnt (l : List SubSt) : Nat := (l.filter (·.alive)).length

theorem cnt_eq (l : List Bool) : cnt l = l.countP id := List.countP_eq_length_filter.symm
theorem subCnt_eq (l : List SubSt) : subCnt l = l.countP (·.alive) := List.countP_eq_length_filter.symm

@[simp]
theorem cnt_snoc_true (l : List Bool) : cnt (l ++ [true]) = cnt l + 1 := by simp [cnt_eq]

theorem cnt_set_false {l : List Bool} {h : Nat} (ht : l.getD h false = true) : cnt (l.set h false) + 1 = cnt l := by
  simpa [cnt_eq] using countP_set_of_getElem? (p := id) (getD_false_eq_true.mp ht) false

/-- subscriber `s` with id `i` agrees with the state: its cursor and `fresh` flag with the version counter,
    its `parked` flag with the waker list -/
abbrev SubOK {α} (st : ObsSt α) (i : Nat) (s : SubSt) : Prop :=
  (st.version ≠ 0 → s.observed ≤ st.version ∧ (s.observed < st.version ↔ s.fresh = true)) ∧
  (s.parked = true → i ∈ st.wakers)

structure OInv {α} (w : OWorld α) : Prop where
  /-- C03: open exactly while an owner exists -/
  open_iff : w.st.version ≠ 0 ↔ w.ownerCount > 0
  excl : w.unique = true → cnt w.clones = 0
  /-- C19: the `Arc` counters are the handle counts -/
  arc_nc : w.arcNc = cnt w.clones
  arc_state : w.arcState = w.ownerCount + subCnt w.subs
  arc_weak : w.arcWeak = cnt w.weaks
  /-- C01 / C02, per live subscriber -/
  subs_ok : ∀ i s, w.subs[i]? = some s → s.alive = true →
    (w.st.version ≠ 0 → s.observed ≤ w.st.version ∧ (s.observed < w.st.version ↔ s.fresh = true)) ∧
    (s.parked = true → i ∈ w.st.wakers)

theorem oinv_newUnique {α} (v : α) : OInv (OWorld.newUnique v) := by
  constructor <;> simp [OWorld.newUnique, OWorld.ownerCount, OWorld.cloneCount, cnt, subCnt]

theorem oinv_newShared {α} (v : α) : OInv (OWorld.newShared v) := by
  constructor <;> simp [OWorld.newShared, OWorld.ownerCount, OWorld.cloneCount, cnt, subCnt]

theorem ownerCount_eq {α} (w : OWorld α) : w.ownerCount = (if w.unique then 1 else 0) + cnt w.clones := rfl

section
variable {α : Type} {w : OWorld α}

theorem ownerAlive_pos {h : Nat} (ha : w.ownerAlive h = true) : 0 < w.ownerCount := by
  unfold OWorld.ownerAlive at ha
  rw [ownerCount_eq]
  split at ha
  · simp [*]; omega
  · have : 0 < cnt w.clones := cnt_eq _ ▸ countP_pos_of_getElem? (getD_false_eq_true.mp ha) rfl
    omega

theorem OInv.subs_side (hi : OInv w) {st' : ObsSt α} {subs' : List SubSt} {as' : Nat}
    (hv : st'.version ≠ 0 ↔ w.st.version ≠ 0) (hc : as' + subCnt w.subs = w.arcState + subCnt subs')
    (hsubs : ∀ i s, subs'[i]? = some s → s.alive = true → SubOK st' i s) :
    OInv { w with st := st', subs := subs', arcState := as' } :=
  ⟨hv.trans hi.open_iff, hi.excl, hi.arc_nc, by have := hi.arc_state; show as' = w.ownerCount + subCnt subs'; omega,
   hi.arc_weak, hsubs⟩

theorem ownerCount_shared (hu : w.unique = false) : w.ownerCount = cnt w.clones := by simp [ownerCount_eq, hu]

theorem OInv.ownerCount_unique (hi : OInv w) (hu : w.unique = true) : w.ownerCount = 1 := by
  simp [ownerCount_eq, hu, hi.excl hu]

-- `u` with `hu`, not the literal `false`: the shared arm of `dropOwner` leaves `unique` as it is
theorem OInv.owner_side (hi : OInv w) {u : Bool} {cl : List Bool} {nc as' : Nat} (hu : u = false)
    (hpos : 0 < w.ownerCount) (hcl : 0 < cnt cl) (hnc : nc = cnt cl) (has : as' + w.ownerCount = w.arcState + cnt cl) :
    OInv { w with unique := u, clones := cl, arcNc := nc, arcState := as' } := by
  subst hu
  exact ⟨⟨fun _ => by simpa [ownerCount_eq] using hcl, fun _ => hi.open_iff.mpr hpos⟩, fun h => (by cases h), hnc,
    by have := hi.arc_state; show as' = 0 + cnt cl + subCnt w.subs; omega, hi.arc_weak, hi.subs_ok⟩

theorem OInv.add_clone (hi : OInv w) (hu : w.unique = false) (hpos : 0 < w.ownerCount) :
    OInv { w with clones := w.clones ++ [true], arcState := w.arcState + 1, arcNc := w.arcNc + 1 } :=
  hi.owner_side hu hpos (by simp) (by simp [hi.arc_nc])
    (by simp [ownerCount_shared hu]; omega)

theorem OInv.weak_side (hi : OInv w) {wk : List Bool} {aw : Nat} (h : aw = cnt wk) :
    OInv { w with weaks := wk, arcWeak := aw } :=
  ⟨hi.open_iff, hi.excl, hi.arc_nc, hi.arc_state, h, hi.subs_ok⟩

theorem OInv.close_side (hi : OInv w) {u : Bool} {cl : List Bool} {nc as' : Nat} (hu : u = false) (hcl : cnt cl = 0)
    (hnc : nc = 0) (has : as' = subCnt w.subs) :
    OInv ({ w with st := { w.st with version := 0, wakers := [] }, unique := u, clones := cl, arcNc := nc,
                   arcState := as' }.unparkAll) := by
  subst hu
  refine ⟨by simp [OWorld.unparkAll, ownerCount_eq, hcl], fun _ => hcl, hnc.trans hcl.symm, ?_, hi.arc_weak, ?_⟩
  · simp [OWorld.unparkAll, ownerCount_eq, hcl, has, subCnt_eq, List.countP_map]; rfl
  · intro i s hs _
    obtain ⟨s0, -, rfl⟩ := Option.map_eq_some_iff.mp (List.getElem?_map .. ▸ hs)
    exact ⟨fun h => absurd rfl h, fun h => by cases h⟩

theorem OInv.notify (hi : OInv w) (v : α) (hopen : w.st.version ≠ 0) :
    OInv ({ w with st := { value := v, version := w.st.version + 1, wakers := [] } }.markFresh) := by
  refine hi.subs_side (by simp [hopen]) (by simp [subCnt_eq, List.countP_map]; rfl) fun i s hs ha => ?_
  obtain ⟨s0, hs0, rfl⟩ := Option.map_eq_some_iff.mp (List.getElem?_map .. ▸ hs)
  have := (hi.subs_ok i s0 hs0 ha).1 hopen
  exact ⟨fun _ => ⟨by show s0.observed ≤ _ + 1; omega, by show s0.observed < _ + 1 ↔ _; simp; omega⟩, fun h => by cases h⟩

theorem OInv.add_sub (hi : OInv w) {ns : SubSt} (hal : ns.alive = true) (hp : ns.parked = false)
    (hc : w.st.version ≠ 0 → ns.observed ≤ w.st.version ∧ (ns.observed < w.st.version ↔ ns.fresh = true)) :
    OInv { w with subs := w.subs ++ [ns], arcState := w.arcState + 1 } := by
  refine hi.subs_side Iff.rfl (by simp [subCnt_eq, hal]; omega) fun i s hs ha => ?_
  rcases getElem?_snoc_cases hs with hs | ⟨-, rfl⟩
  · exact hi.subs_ok i s hs ha
  · exact ⟨hc, fun h => by simp [hp] at h⟩

/-- the last two premises (no waker lost; `arcState` down by one iff the entry dies) are closed by `simp` at every call -/
theorem OInv.set_sub (hi : OInv w) {i : Nat} {s0 ns : SubSt} {wks : List Nat} {as' : Nat} (hs0 : w.subs[i]? = some s0)
    (ha0 : s0.alive = true) (hc : ns.alive = true → SubOK { w.st with wakers := wks } i ns)
    (hw : w.st.wakers ⊆ wks := by simp) (has : as' = w.arcState - if ns.alive then 0 else 1 := by simp [*]) :
    OInv { w with st := { w.st with wakers := wks }, subs := w.subs.set i ns, arcState := as' } := by
  refine hi.subs_side Iff.rfl ?_ fun j s hs ha => ?_
  · have := countP_set_of_getElem? (p := (·.alive)) hs0 ns
    have := hi.arc_state
    cases hna : ns.alive <;> simp only [hna, subCnt_eq, ha0, if_true, Bool.false_eq_true, if_false] at * <;> omega
  · rcases getElem?_set_cases hs with ⟨rfl, rfl⟩ | ⟨-, hs⟩
    · exact hc ha
    · have := hi.subs_ok j s hs ha
      exact ⟨this.1, fun h => hw (this.2 h)⟩

end

theorem oinv_step {α} (eqv : α → α → Bool) (hash : α → Nat) (dflt : α) (w : OWorld α) (hi : OInv w) (e : OEv α) :
    OInv (w.step eqv hash dflt e) := by
  cases e with
  | write h op =>
    simp only [OWorld.step]
    split
    · next hw =>
      obtain ⟨ha, v, ⟨rfl, -⟩ | ⟨rfl, -⟩⟩ := write_spec hw
      · exact hi.notify v (hi.open_iff.mpr (ownerAlive_pos ha))
      · exact hi.subs_side Iff.rfl rfl hi.subs_ok
    · exact hi
  | subscribe h r =>
    simp only [OWorld.step]
    split
    · next hw =>
      obtain ⟨-, hw⟩ := guard_eq_some hw
      cases hw
      exact hi.add_sub rfl rfl fun (hopen : w.st.version ≠ 0) => by cases r <;> simp <;> omega
    · exact hi
  | poll i =>
    simp only [OWorld.step]
    split
    · next hp =>
      obtain ⟨s, hs, ha, hx⟩ := poll_eq_some_iff.mp hp
      have hsub := hi.subs_ok i s hs ha
      split at hx
      · next hclosed =>
        cases hx
        exact hi.set_sub hs ha fun _ => ⟨fun h => absurd hclosed h, fun h => by cases h⟩
      split at hx <;> cases hx
      · exact hi.set_sub hs ha fun _ => ⟨fun _ => by simp, fun h => by cases h⟩
      · exact hi.set_sub hs ha fun _ => ⟨hsub.1, fun _ => by simp⟩
    · exact hi
  | nextNow i =>
    simp only [OWorld.step]
    split
    · next hp =>
      obtain ⟨s, hs, ha, hx⟩ := liveSub_eq_some hp
      cases hx
      exact hi.set_sub hs ha fun _ => ⟨fun _ => by simp, (hi.subs_ok i s hs ha).2⟩
    · exact hi
  | reset i =>
    refine getD_ind hi fun w' hr => ?_
    obtain ⟨s, hs, ha, hx⟩ := liveSub_eq_some hr
    cases hx
    exact hi.set_sub hs ha fun _ => ⟨fun (h : w.st.version ≠ 0) => by simp; omega, (hi.subs_ok i s hs ha).2⟩
  | subClone i r =>
    simp only [OWorld.step]
    split
    · next hc =>
      obtain ⟨s, hs, ha, hx⟩ := liveSub_eq_some hc
      cases hx
      have hcur := (hi.subs_ok i s hs ha).1
      exact hi.add_sub rfl rfl fun hopen => by cases r <;> simp <;> first | exact hcur hopen | omega
    · exact hi
  | subDrop i =>
    refine getD_ind hi fun w' hr => ?_
    obtain ⟨s, hs, ha, hx⟩ := liveSub_eq_some hr
    cases hx
    exact hi.set_sub hs ha fun h => by cases h
  | cloneOwner h =>
    simp only [OWorld.step]
    split
    · next hc =>
      obtain ⟨hg, hc⟩ := Option.ite_none_left_eq_some.mp hc
      cases hc
      have hg : w.unique = false ∧ w.ownerAlive h = true := by simpa using hg
      exact hi.add_clone hg.1 (ownerAlive_pos hg.2)
    · exact hi
  | downgrade h =>
    simp only [OWorld.step]
    split
    · next hc =>
      cases (Option.ite_none_left_eq_some.mp hc).2
      exact hi.weak_side (by simp [hi.arc_weak])
    · exact hi
  | cloneWeak k =>
    simp only [OWorld.step]
    split
    · next hc =>
      obtain ⟨-, hc⟩ := guard_eq_some hc
      cases hc
      exact hi.weak_side (by simp [hi.arc_weak])
    · exact hi
  | dropWeak k =>
    refine getD_ind hi fun w' hr => ?_
    obtain ⟨hg, hr⟩ := guard_eq_some hr
    cases hr
    have := cnt_set_false hg
    exact hi.weak_side (by have := hi.arc_weak; omega)
  | upgrade k =>
    simp only [OWorld.step]
    split
    · next hu =>
      obtain ⟨-, hu⟩ := guard_eq_some hu
      split at hu
      · cases hu; exact hi
      split at hu <;> cases hu
      · exact hi
      next hnc =>
      have hc := hi.arc_nc
      have hnu : w.unique = false := by
        cases hu : w.unique
        · rfl
        · have := hi.excl hu; omega
      exact hi.add_clone hnu (by rw [ownerCount_shared hnu]; omega)
    · exact hi
  | intoShared =>
    simp only [OWorld.step]
    split
    · next hs =>
      obtain ⟨hu, hs⟩ := guard_eq_some hs
      cases hs
      have := hi.excl hu
      exact hi.owner_side rfl (by rw [hi.ownerCount_unique hu]; omega) (by simp)
        (by simp; omega) (by simp [hi.ownerCount_unique hu]; omega)
    · exact hi
  | dropOwner h =>
    simp only [OWorld.step]
    split
    · next hd =>
      obtain ⟨ha, hd⟩ := guard_eq_some hd
      have has := hi.arc_state
      split at hd
      · next hu =>
        cases hd
        rw [hi.ownerCount_unique hu] at has
        exact hi.close_side rfl (hi.excl hu) (hi.arc_nc.trans (hi.excl hu)) (by omega)
      next hu =>
      have hu : w.unique = false := by simpa using hu
      have hc := cnt_set_false (by simpa [OWorld.ownerAlive, hu] using ha : w.clones.getD h false = true)
      have hnc := hi.arc_nc
      rw [ownerCount_shared hu] at has
      split at hd <;> cases hd
      · exact hi.close_side hu (by dsimp only; omega) (by dsimp only; omega) (by dsimp only; omega)
      · exact hi.owner_side hu (ownerAlive_pos ha) (by omega) (by omega) (by rw [ownerCount_shared hu]; omega)
    · exact hi

/-- every world reachable from a fresh observable by any sequence of calls satisfies the invariant -/
theorem oinv_run {α} (eqv : α → α → Bool) (hash : α → Nat) (dflt : α) (w0 : OWorld α) (h0 : OInv w0)
    (evs : List (OEv α)) : OInv (evs.foldl (OWorld.step eqv hash dflt) w0) :=
  foldl_preserves OInv _ (fun w e h => oinv_step eqv hash dflt w h e) evs w0 h0

/-- reachable worlds: any sequence of calls on a fresh `Observable` or `SharedObservable` -/
def OReach {α} (eqv : α → α → Bool) (hash : α → Nat) (dflt : α) (w : OWorld α) : Prop :=
  ∃ (v : α) (evs : List (OEv α)), w = evs.foldl (OWorld.step eqv hash dflt) (OWorld.newUnique v) ∨
           w = evs.foldl (OWorld.step eqv hash dflt) (OWorld.newShared v)

theorem oreach_inv {α} {eqv : α → α → Bool} {hash : α → Nat} {dflt : α} {w : OWorld α}
    (h : OReach eqv hash dflt w) : OInv w := by
  obtain ⟨v, evs, h | h⟩ := h
  · rw [h]; exact oinv_run _ _ _ _ (oinv_newUnique v) evs
  · rw [h]; exact oinv_run _ _ _ _ (oinv_newShared v) evs

end EV
