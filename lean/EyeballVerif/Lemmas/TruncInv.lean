/-
  `TInv` at every reachable state: what a receiver is handed is a *valid* container for the adapters on it, not just an
  applicable one.
-/
import EyeballVerif.Lemmas.ApplyAll
import EyeballVerif.Lemmas.StreamInv
namespace EV

/-- third reachable-state invariant of the vector streams: along everything still owed to a receiver (and along
    an open transaction's batch) every `Truncate` really shortens -/
structure TInv {α} (s : OV α) : Prop where
  subs : ∀ (i : Nat) (r : Sub α) (rep : List α), s.subs[i]? = some r → r.alive = true → r.replica = some rep →
    TruncOK (owed s.log r) rep
  txn : ∀ t, s.txn = some t → s.rxCount ≠ 0 → TruncOK t.batch s.vals

theorem txnOp_truncOK {α} (s s' : OV α) (o : VOp α) (r : Ret α) (hv : VInv s) (hi : TInv s) (h : s.txnOp o = some (s', r)) :
    ∀ t, s'.txn = some t → s'.rxCount ≠ 0 → TruncOK t.batch s'.vals := by
  obtain ⟨t, t', ht, rfl, hc⟩ := txnOp_spec s s' o r h
  intro t'' ht'' hrx
  cases ht''
  -- as in `c07_inv_op`: `rxCount` and `vals` do not read the `txn` field
  have hrx' : s.rxCount ≠ 0 := hrx
  show TruncOK t'.batch s.vals
  rcases hc with ⟨_, hb⟩ | ⟨res, he, _, hb⟩
  · rw [hb, if_pos hrx']; exact truncOK_single .clear _ rfl
  · rw [hb, if_pos hrx']
    refine (truncOK_append_iff _ _ _ _ (hv.txn t ht hrx')).mpr ⟨hi.txn t ht hrx', ?_⟩
    cases hd : res.diff with
    | none => trivial
    | some d => exact truncOK_single d t.working ((c05_exec_faithful o t.working res he).2.2 d hd)

theorem tinv_set_sub {α} (s : OV α) (hi : TInv s) (i : Nat) (r r' : Sub α) (hs : s.subs[i]? = some r) (ha : r.alive = true)
    (ha' : r'.alive = true) (hnew : ∀ rep, r'.replica = some rep → TruncOK (owed s.log r') rep) :
    TInv { s with subs := s.subs.set i r' } := by
  refine ⟨?subs, ?txn⟩
  case subs =>
    intro j rj repj hj haj hrepj
    rcases getElem?_set_cases hj with ⟨_, rfl⟩ | ⟨_, hj⟩
    · exact hnew repj hrepj
    · exact hi.subs j rj repj hj haj hrepj
  case txn =>
    intro t ht hrx
    exact hi.txn t ht (rxCount_set_sub s i r r' hs (ha'.trans ha.symm) ▸ hrx)

/-- what stays owed is a suffix of what was owed, replayed from where the delivered prefix leaves the replica -/
theorem tinv_poll {α} (s s' : OV α) (i : Nat) (it : Item α) (hv : VInv s) (hi : TInv s) (h : s.poll i = some (it, s')) : TInv s' := by
  obtain ⟨r, r', rep, hp⟩ := polled_of_poll s s' i it hv h
  rw [hp.state_eq]
  refine tinv_set_sub s hi i r r' hp.sub hp.alive hp.alive' ?_
  intro rep' hrep'
  rw [hp.replica'] at hrep'
  have hold := hi.subs i r rep hp.sub hp.alive hp.replica
  rcases hp.outcome with ⟨-, -, ho'⟩ | ⟨ds, hds, -, ho⟩ | ⟨-, -, -, ho'⟩
  · rw [ho']; trivial
  · rw [ho] at hold
    exact ((truncOK_append_iff ds _ rep rep' ((ghostRep_of_carries hds _).symm.trans hrep')).mp hold).2
  · rw [ho']; trivial

theorem Publishes.truncOK {α} {s : OV α} {ds : List (Diff α)} {v' : List α} (h : Publishes s ds v') (hi : TInv s) (hrx : s.rxCount ≠ 0) :
    TruncOK ds s.vals := by
  cases h with
  | call op r d he hd => exact truncOK_single d s.vals ((c05_exec_faithful op s.vals r he).2.2 d hd)
  | commit t ht => exact hi.txn t ht hrx

theorem tinv_grow {α} {s s' : OV α} (hv : VInv s) (hi : TInv s) (hg : Grow s s') : TInv s' := by
  refine ⟨?subs, ?txn⟩
  case subs =>
    intro j r' rep' hj ha hrep'
    rcases hg.receivers j r' hj with ⟨r, hr, hal, _, hn, hrest, hrep⟩ | ⟨_, hn, hrest, _⟩
    · have hold := hi.subs j r rep' hr (hal ha) (hrep ▸ hrep')
      rcases hg.log_grows with ⟨h, _⟩ | ⟨ds, many, h, _, hrx, hsrc⟩
      · rw [h, owed_congr _ r r' hn hrest]; exact hold
      · obtain ⟨-, hin_log, rep, hrep0, hreplay⟩ := hv.subs j r hr (hal ha)
        obtain rfl : rep = rep' := Option.some.inj (hrep0.symm.trans (hrep.symm.trans hrep'))
        rw [h, owed_append _ _ _ (hn ▸ hin_log), owed_congr _ r r' hn hrest]
        exact (truncOK_append_iff _ _ _ _ hreplay).mpr ⟨hold, hsrc.truncOK hi hrx⟩
    · rw [owed_caught_up _ _ hrest (Nat.le_of_eq hn.symm)]; trivial
  case txn =>
    rcases hg.txn_moves with h | ⟨h, hv', hrx⟩ | ⟨_, h⟩ | ⟨o, r, h⟩
    · intro t ht; rw [h] at ht; cases ht
    · intro t ht hrx'; rw [hv']; exact hi.txn t (h ▸ ht) (hrx hrx')
    · intro t ht _; rw [h] at ht; cases ht; trivial
    · exact txnOp_truncOK s s' o r hv hi h

theorem tinv_vstep {α} (s : OV α) (e : VEv α) (hv : VInv s) (hi : TInv s) : TInv (s.vstep e) :=
  vstep_ind (fun _ _ hu hg h => tinv_grow hu h hg) s e hv hi fun i it _ hp => tinv_poll s _ i it hv hi hp

theorem tinv_run {α} (c : Nat) (hc : c ≤ 2 ^ 64) (evs : List (VEv α)) : TInv (evs.foldl OV.vstep (OV.new c)) :=
  (foldl_preserves (fun s => VInv s ∧ TInv s) _ (fun s e h => ⟨vinv_vstep s e h.1, tinv_vstep s e h.1 h.2⟩) evs _
    ⟨vinv_new c hc, by intro i r rep h; simp [OV.new] at h, by intro t h; simp [OV.new] at h⟩).2

end EV
