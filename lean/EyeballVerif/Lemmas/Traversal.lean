/-
  The `entries()` loop model (`forEachLoop`) against its list-level specification `travSpec`; at the end the frame facts of
  `OV.send`.
-/
import EyeballVerif.Model.OVec
import EyeballVerif.Lemmas.ListExtra
namespace EV

/-- the traversal only looks at the state through `vals`: a simulation between two carriers -/
theorem forEachLoop_sim {α σ τ} (vals : σ → List α) (doSet : σ → Nat → α → σ) (doRemove : σ → Nat → σ)
    (vals' : τ → List α) (doSet' : τ → Nat → α → τ) (doRemove' : τ → Nat → τ)
    (R : σ → τ → Prop) (hv : ∀ a b, R a b → vals a = vals' b)
    (hs : ∀ a b i v, R a b → R (doSet a i v) (doSet' b i v))
    (hr : ∀ a b i, R a b → R (doRemove a i) (doRemove' b i))
    (fuel idx : Nat) (decs : List (Dec α)) (a : σ) (b : τ) (seen : List (Nat × α)) (h : R a b) :
    R (forEachLoop vals doSet doRemove fuel idx decs a seen).1 (forEachLoop vals' doSet' doRemove' fuel idx decs b seen).1 ∧
    (forEachLoop vals doSet doRemove fuel idx decs a seen).2 = (forEachLoop vals' doSet' doRemove' fuel idx decs b seen).2 := by
  induction fuel generalizing idx decs a b seen with
  | zero => simpa [forEachLoop]
  | succ n ih =>
    unfold forEachLoop
    rw [hv a b h]
    cases hx : (vals' b)[idx]? with
    | none => simpa
    | some x =>
      simp only
      cases hd : decs.headD .keep <;> simp only
      · exact ih _ _ _ _ _ h
      · exact ih _ _ _ _ _ (hs _ _ _ _ h)
      · exact ih _ _ _ _ _ (hr _ _ _ h)
      · exact ih _ _ _ _ _ (hr _ _ _ (hs _ _ _ _ h))
      · exact ⟨h, trivial⟩

theorem forEachLoop_preserves {α σ} (vals : σ → List α) (doSet : σ → Nat → α → σ) (doRemove : σ → Nat → σ)
    (P : σ → Prop) (hs : ∀ st i v, P st → P (doSet st i v)) (hr : ∀ st i, P st → P (doRemove st i))
    (fuel idx : Nat) (decs : List (Dec α)) (st : σ) (seen : List (Nat × α)) (h : P st) :
    P (forEachLoop vals doSet doRemove fuel idx decs st seen).1 :=
  -- the loop simulates itself, related by "equal, and `P` holds"
  (forEachLoop_sim vals doSet doRemove vals doSet doRemove (fun a b => a = b ∧ P a) (fun _ _ ⟨e, _⟩ => e ▸ rfl)
    (fun _ _ i v ⟨e, h⟩ => e ▸ ⟨rfl, hs _ i v h⟩) (fun _ _ i ⟨e, h⟩ => e ▸ ⟨rfl, hr _ i h⟩)
    fuel idx decs st st seen ⟨rfl, h⟩).1.2

/-- the let-bound `step` of `OV.forEach`: a panicking call is skipped, the receivers woken are collected -/
def OV.forEachCall {α} (st : OV α × List Nat) (op : VOp α) : OV α × List Nat :=
  match st.1.direct op with
  | some (s', _, w) => (s', st.2 ++ w)
  | none => st

theorem OV.forEach_eq {α} (s : OV α) (decs : List (Dec α)) :
    s.forEach decs = forEachLoop (fun st => st.1.vals) (fun st i v => OV.forEachCall st (.set i v))
      (fun st i => OV.forEachCall st (.remove i)) s.vals.length 0 decs (s, []) [] := rfl

/-- specification of a traversal of `rest` when `k` items have been kept so far:
    (resulting items, list of (reported index, item seen)) -/
def travSpec {α} : List α → List (Dec α) → Nat → List α × List (Nat × α)
  | [], _, _ => ([], [])
  | x :: xs, decs, k =>
    match decs.headD .keep with
    | .keep => let r := travSpec xs decs.tail (k + 1); (x :: r.1, (k, x) :: r.2)
    | .set v => let r := travSpec xs decs.tail (k + 1); (v :: r.1, (k, x) :: r.2)
    | .remove => let r := travSpec xs decs.tail k; (r.1, (k, x) :: r.2)
    | .setRemove _ => let r := travSpec xs decs.tail k; (r.1, (k, x) :: r.2)
    | .stop => (x :: xs, [(k, x)])

/-- the loop on a plain list meets the specification -/
theorem forEachLoop_list {α} (pre rest : List α) (decs : List (Dec α)) (seen : List (Nat × α))
    (fuel : Nat) (hf : rest.length ≤ fuel) :
    forEachLoop (fun l => l) (fun l i v => l.set i v) (fun l i => l.eraseIdx i) fuel pre.length decs (pre ++ rest) seen
      = (pre ++ (travSpec rest decs pre.length).1, seen ++ (travSpec rest decs pre.length).2) := by
  induction rest generalizing pre decs seen fuel with
  | nil => cases fuel <;> simp [forEachLoop, travSpec]
  | cons x xs ih =>
    cases fuel with
    | zero => simp at hf
    | succ n =>
      have hn : xs.length ≤ n := by simpa using hf
      unfold forEachLoop
      simp only [List.getElem?_append_right (Nat.le_refl _), Nat.sub_self, List.getElem?_cons_zero]
      have hset : ∀ v, (pre ++ x :: xs).set pre.length v = pre ++ v :: xs := fun v => by simp [List.set_append_right]
      unfold travSpec
      cases hd : decs.headD .keep <;> simp only  -- closes `stop`
      · have := ih (pre ++ [x]) decs.tail (seen ++ [(pre.length, x)]) n hn
        simp only [List.length_append, List.length_cons, List.length_nil, List.append_assoc,
          List.cons_append, List.nil_append] at this
        rw [this]
      · rename_i v
        have := ih (pre ++ [v]) decs.tail (seen ++ [(pre.length, x)]) n hn
        simp only [List.length_append, List.length_cons, List.length_nil, List.append_assoc,
          List.cons_append, List.nil_append] at this
        rw [hset, this]
      · have := ih pre decs.tail (seen ++ [(pre.length, x)]) n hn
        rw [eraseIdx_mid pre xs x _ rfl, this]; simp
      · rename_i v
        have := ih pre decs.tail (seen ++ [(pre.length, x)]) n hn
        rw [hset, eraseIdx_mid pre xs v _ rfl, this]; simp

/-- `parked` reads the receivers only: also serves `send` and `dropVec`, which change `log` / `alive` besides -/
theorem OV.parked_unparkAll {α} (s : OV α) : s.unparkAll.parked = [] := by
  simp only [OV.parked, OV.unparkAll, List.length_map]
  apply List.filter_eq_nil_iff.mpr
  intro i _
  simp only [List.getElem?_map]
  cases s.subs[i]? <;> simp

theorem send_vals {α} (s : OV α) (m : Msg α) : (s.send m).1.vals = s.vals := by
  unfold OV.send; split <;> simp [OV.unparkAll]

theorem send_log {α} (s : OV α) (m : Msg α) : (s.send m).1.log = if s.rxCount ≠ 0 then s.log ++ [m] else s.log := by
  unfold OV.send; split <;> rfl

theorem send_alive {α} (s : OV α) (m : Msg α) : (s.send m).1.alive = s.alive := by
  unfold OV.send; split <;> rfl

theorem send_txn {α} (s : OV α) (m : Msg α) : (s.send m).1.txn = s.txn := by
  unfold OV.send; split <;> simp [OV.unparkAll]

end EV
