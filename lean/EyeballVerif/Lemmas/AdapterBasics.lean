/-
  The adapters' private helpers (`truncate_from_end`, `getPush`) as list operations, the replay steps only Head, Tail or
  Skip take, and which handlers can emit a `Truncate`.
-/
import EyeballVerif.Model.Adapters
import EyeballVerif.Lemmas.ApplyAll
import EyeballVerif.Lemmas.ListExtra
namespace EV

theorem truncateFromEnd_eq {α} (l : List α) (n : Nat) : truncateFromEnd l n = lastN n l := by
  unfold truncateFromEnd lastN
  by_cases h : n = 0
  · subst h; simp
  · simp only [h, if_false]
    by_cases h2 : l.length - n = 0
    · simp [h2]
    · simp [h2]

theorem lastN_of_le {α} {L : Nat} {l : List α} (h : l.length ≤ L) : lastN L l = l := by
  unfold lastN; rw [Nat.sub_eq_zero_of_le h]; rfl

theorem lastN_length {α} (L : Nat) (l : List α) : (lastN L l).length = min L l.length := by
  unfold lastN; rw [List.length_drop]; omega

theorem lastN_length_le {α} (L : Nat) (l : List α) : (lastN L l).length ≤ L := lastN_length L l ▸ Nat.min_le_left ..

theorem getPush_eq {α} (buf : List α) (i : Nat) (mk : α → Diff α) : getPush buf i mk = (buf[i]?.map mk).toList := by
  unfold getPush; cases buf[i]? <;> rfl

theorem forall_mem_getPush {α} {P : Diff α → Prop} (buf : List α) (i : Nat) {mk : α → Diff α} (h : ∀ x, P (mk x)) :
    ∀ d ∈ getPush buf i mk, P d := by
  rw [getPush_eq]; cases buf[i]? <;> simp [h]

theorem applyAll_getPush_front {α} (buf : List α) (i : Nat) (l : List α) :
    applyAll (getPush buf i .pushFront) l = some (buf[i]?.toList ++ l) := by
  rw [getPush_eq]; cases buf[i]? <;> rfl

theorem applyAll_getPush_back {α} (buf : List α) (i : Nat) (l : List α) :
    applyAll (getPush buf i .pushBack) l = some (l ++ buf[i]?.toList) := by
  rw [getPush_eq]; cases buf[i]? <;> simp [applyAll_pushBack_cons]

theorem applyAll_popBack_take {α} (ds : List (Diff α)) (v : List α) {b : Nat} (h : b + 1 ≤ v.length) :
    applyAll (.popBack :: ds) (v.take (b + 1)) = applyAll ds (v.take b) := by
  cases v with
  | nil => cases h
  | cons a w => rw [applyAll_cons, ← dropLast_take_succ (a :: w) h]; rfl

/-- Head / Tail while the source is shorter than the limit. `hw`, `hw'` are equations: a caller hands in
    `take_of_length_le` / `lastN_of_le` without rewriting its goal. -/
theorem applyAll_forward {α} {d : Diff α} {v v' w w' : List α} (hv : d.validOn v = true) (ha : d.apply v = some v')
    (hw : w = v) (hw' : w' = v') : applyAll [d] w = some w' := by
  rw [hw, hw', applyAll_cons_valid [] hv ha]; rfl

/-- Skip's counterpart: neither source longer than the count, both views empty -/
theorem skip_silent {α} {v v' : List α} {c : Nat} (h : v.length ≤ c) (h' : v'.length ≤ c) :
    applyAll [] (v.drop c) = some (v'.drop c) := by
  rw [List.drop_of_length_le h, List.drop_of_length_le h']; rfl

/-! Which handlers can emit a `Truncate` (what makes a stage's output a valid container again): Tail and
  `Skip::update_count` never, Head and Skip only for an incoming one, `Head::update_limit` only one that shortens. -/

theorem noTrunc_getPush {α} (buf : List α) (i : Nat) (mk : α → Diff α) (h : ∀ x n, mk x ≠ .truncate n) : NoTrunc (getPush buf i mk) :=
  forall_mem_getPush buf i h

theorem head_noTrunc {α} (d : Diff α) (L pl : Nat) (b : List α) (h : ∀ n, d ≠ .truncate n) : NoTrunc (Head.handleDiff d L pl b) := by
  unfold Head.handleDiff
  split
  · exact noTrunc_nil
  · cases d with
    | truncate n => exact absurd rfl (h n)
    | _ => simp only [apply_ite NoTrunc, noTrunc_nil, noTrunc_cons, noTrunc_append, noTrunc_getPush, ne_eq, reduceCtorEq,
        not_false_eq_true, implies_true, and_self, ite_self]

theorem skip_noTrunc {α} (d : Diff α) (c pl : Nat) (b : List α) (h : ∀ n, d ≠ .truncate n) : NoTrunc (Skip.handleDiff d c pl b) := by
  cases d with
  | truncate n => exact absurd rfl (h n)
  | _ => simp only [Skip.handleDiff, apply_ite NoTrunc, noTrunc_nil, noTrunc_cons, noTrunc_getPush, ne_eq, reduceCtorEq,
      not_false_eq_true, implies_true, and_self, ite_self]

theorem tail_noTrunc {α} (d : Diff α) (L pl : Nat) (b : List α) : NoTrunc (Tail.handleDiff d L pl b) := by
  unfold Tail.handleDiff
  split
  · exact noTrunc_nil
  · cases d with
    | _ => simp only [apply_ite NoTrunc, noTrunc_nil, noTrunc_cons, noTrunc_append, noTrunc_getPush, noTrunc_replicate, noTrunc_map,
        ne_eq, reduceCtorEq, not_false_eq_true, implies_true, and_self, ite_self]

theorem head_updateLimit_truncOK {α} (v : List α) (old new : Nat) : TruncOK (Head.updateLimit old new v) (v.take old) := by
  unfold Head.updateLimit
  split
  · trivial
  · split
    · dsimp only; split
      · trivial
      · exact truncOK_single _ _ rfl      -- an `Append`
    · split
      · split
        · trivial
        · -- the one `Truncate`: `new < old`, `new < v.length`: shortens `v.take old`
          exact truncOK_single _ _ (decide_eq_true (by rw [List.length_take]; omega))
      · trivial

theorem skip_updateCount_noTrunc {α} (v : List α) (old : Option Nat) (new : Nat) : NoTrunc (Skip.updateCount old new v) := by
  unfold Skip.updateCount
  cases old with
  | none => simp only [apply_ite NoTrunc, noTrunc_nil, noTrunc_cons, ne_eq, reduceCtorEq, not_false_eq_true, implies_true, and_self, ite_self]
  | some old => simp only [apply_ite NoTrunc, noTrunc_nil, noTrunc_cons, noTrunc_replicate, noTrunc_map, ne_eq, reduceCtorEq,
      not_false_eq_true, implies_true, and_self, ite_self]


end EV
