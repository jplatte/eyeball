/-
  Strict replay (`applyAll`) and valid containers: `ValidSeq` (what an `ObservableVector` can emit) is strict replay plus
  `TruncOK` (every `Truncate` shortens); `NoTrunc` is the form the Sort stage needs.
-/
import EyeballVerif.Model.Diff
namespace EV

@[simp] theorem applyAll_nil {α} (l : List α) : applyAll ([] : List (Diff α)) l = some l := rfl

theorem applyAll_cons {α} (d : Diff α) (ds : List (Diff α)) (l : List α) :
    applyAll (d :: ds) l = if d.applicable l then (d.apply l).bind (applyAll ds) else none := rfl

theorem applyAll_cons_eq_some {α} {d : Diff α} {ds : List (Diff α)} {l l' : List α} (h : applyAll (d :: ds) l = some l') :
    d.applicable l = true ∧ ∃ l₁, d.apply l = some l₁ ∧ applyAll ds l₁ = some l' := by
  rw [applyAll_cons] at h
  split at h
  · cases hd : d.apply l with
    | none => rw [hd] at h; cases h
    | some l₁ => rw [hd] at h; exact ⟨‹_›, l₁, rfl, h⟩
  · cases h

theorem applyAll_append {α} (a b : List (Diff α)) (l : List α) :
    applyAll (a ++ b) l = (applyAll a l).bind (applyAll b) := by
  induction a generalizing l with
  | nil => rfl
  | cons d ds ih =>
    simp only [List.cons_append, applyAll]
    split
    · cases h : d.apply l <;> simp [ih]
    · simp

theorem applyAll_append_eq_some_iff {α} {a b : List (Diff α)} {l v : List α} :
    applyAll (a ++ b) l = some v ↔ ∃ mid, applyAll a l = some mid ∧ applyAll b mid = some v := by
  rw [applyAll_append, Option.bind_eq_some_iff]

/-- `applyAll_append_eq_some_iff.mpr` as a function, for `foldDiffs_sound` -/
theorem replay_append {α} (a b : List (Diff α)) (u u' u'' : List α) (ha : applyAll a u = some u') (hb : applyAll b u' = some u'') :
    applyAll (a ++ b) u = some u'' :=
  applyAll_append_eq_some_iff.mpr ⟨u', ha, hb⟩

theorem bind_applyAll_append {α} (x : Option (List α)) (a b : List (Diff α)) :
    (x.bind (applyAll a)).bind (applyAll b) = x.bind (applyAll (a ++ b)) := by
  cases x with
  | none => rfl
  | some v => simp [applyAll_append]

theorem bind_applyAll_nil {α} (x : Option (List α)) : x.bind (applyAll ([] : List (Diff α))) = x := by
  cases x <;> rfl

theorem applyAll_single {α} (d : Diff α) (l : List α) :
    applyAll [d] l = if d.applicable l then d.apply l else none := by
  simp only [applyAll]; split
  · cases d.apply l <;> simp
  · rfl

theorem applyAll_append_cons {α} (ds : List (Diff α)) (vs l : List α) :
    applyAll (.append vs :: ds) l = applyAll ds (l ++ vs) := rfl

theorem applyAll_clear_cons {α} (ds : List (Diff α)) (l : List α) : applyAll (.clear :: ds) l = applyAll ds [] := rfl

theorem applyAll_pushFront_cons {α} (ds : List (Diff α)) (x : α) (l : List α) :
    applyAll (.pushFront x :: ds) l = applyAll ds (x :: l) := rfl

theorem applyAll_pushBack_cons {α} (ds : List (Diff α)) (x : α) (l : List α) :
    applyAll (.pushBack x :: ds) l = applyAll ds (l ++ [x]) := rfl

theorem applyAll_truncate_cons {α} (ds : List (Diff α)) (n : Nat) (l : List α) :
    applyAll (.truncate n :: ds) l = applyAll ds (l.take n) := rfl

theorem applyAll_reset_cons {α} (ds : List (Diff α)) (vs l : List α) : applyAll (.reset vs :: ds) l = applyAll ds vs := rfl

theorem applyAll_popFront_cons {α} (ds : List (Diff α)) {l : List α} (h : l.isEmpty = false) :
    applyAll (.popFront :: ds) l = applyAll ds l.tail := by
  simp only [applyAll, Diff.applicable, Diff.apply, h, Bool.not_false, if_true, Option.bind_some]

theorem applyAll_popBack_cons {α} (ds : List (Diff α)) {l : List α} (h : l.isEmpty = false) :
    applyAll (.popBack :: ds) l = applyAll ds l.dropLast := by
  simp only [applyAll, Diff.applicable, Diff.apply, h, Bool.not_false, if_true, Option.bind_some]

theorem applyAll_insert_cons {α} (ds : List (Diff α)) {l : List α} {i : Nat} (x : α) (h : i ≤ l.length) :
    applyAll (.insert i x :: ds) l = applyAll ds (l.take i ++ x :: l.drop i) := by
  simp only [applyAll, Diff.applicable, Diff.apply, h, decide_true, if_true, Option.bind_some]

theorem applyAll_remove_cons {α} (ds : List (Diff α)) {l : List α} {i : Nat} (h : i < l.length) :
    applyAll (.remove i :: ds) l = applyAll ds (l.eraseIdx i) := by
  simp only [applyAll, Diff.applicable, Diff.apply, h, decide_true, if_true, Option.bind_some]

theorem applyAll_set_cons {α} (ds : List (Diff α)) {l : List α} {i : Nat} (x : α) (h : i < l.length) :
    applyAll (.set i x :: ds) l = applyAll ds (l.set i x) := by
  simp only [applyAll, Diff.applicable, Diff.apply, h, decide_true, if_true, Option.bind_some]

theorem applyAll_popBacks {α} (k : Nat) (l : List α) (h : k ≤ l.length) :
    applyAll (List.replicate k .popBack) l = some (l.take (l.length - k)) := by
  induction k generalizing l with
  | zero => exact congrArg some List.take_length.symm
  | succ k ih =>
    have hne : l.isEmpty = false := by cases l with | nil => cases h | cons => rfl
    have hk : k ≤ l.dropLast.length := by rw [List.length_dropLast]; omega
    -- `dropLast` is `take (length - 1)`, and two `take`s are one
    rw [List.replicate_succ, applyAll_popBack_cons _ hne, ih _ hk, List.length_dropLast, List.dropLast_eq_take, List.take_take,
      Nat.sub_sub, Nat.add_comm 1 k, Nat.min_eq_left (Nat.sub_le_sub_left (Nat.le_add_left 1 k) _)]

theorem applyAll_popFronts {α} (k : Nat) (l : List α) (h : k ≤ l.length) :
    applyAll (List.replicate k .popFront) l = some (l.drop k) := by
  induction k generalizing l with
  | zero => rfl
  | succ k ih =>
    cases l with
    | nil => cases h
    | cons a l => exact ih l (Nat.le_of_succ_le_succ h)

theorem applyAll_pushFronts {α} (xs l : List α) :
    applyAll (xs.map .pushFront) l = some (xs.reverse ++ l) := by
  induction xs generalizing l with
  | nil => rfl
  | cons x xs ih => rw [List.reverse_cons, List.append_assoc]; exact ih (x :: l)

/-- opens an arm: `obtain ⟨hi, rfl⟩ := Diff.insert_apply_eq_some_iff.mp ha` -/
theorem Diff.insert_apply_eq_some_iff {α} {i : Nat} {x : α} {v v' : List α} :
    (Diff.insert i x).apply v = some v' ↔ i ≤ v.length ∧ v.take i ++ x :: v.drop i = v' := by simp [Diff.apply]

theorem Diff.set_apply_eq_some_iff {α} {i : Nat} {x : α} {v v' : List α} :
    (Diff.set i x).apply v = some v' ↔ i < v.length ∧ v.set i x = v' := by simp [Diff.apply]

theorem Diff.remove_apply_eq_some_iff {α} {i : Nat} {v v' : List α} :
    (Diff.remove i : Diff α).apply v = some v' ↔ i < v.length ∧ v.eraseIdx i = v' := by simp [Diff.apply]

theorem validOn_iff {α} (d : Diff α) (v : List α) :
    d.validOn v = true ↔ d.applicable v = true ∧ ∀ n, d = .truncate n → n < v.length := by
  cases d <;> simp [Diff.validOn, Diff.applicable]

theorem Diff.applicable_of_validOn {α} {d : Diff α} {l : List α} (h : d.validOn l = true) : d.applicable l = true :=
  ((validOn_iff d l).mp h).1

theorem applyAll_cons_valid {α} {d : Diff α} {v v₁ : List α} (ds : List (Diff α)) (hv : d.validOn v = true) (ha : d.apply v = some v₁) :
    applyAll (d :: ds) v = applyAll ds v₁ := by
  rw [applyAll_cons, if_pos (Diff.applicable_of_validOn hv), ha]; rfl

/-- the diffs of a container are valid on the successive contents (what an `ObservableVector` emits) -/
def ValidSeq {α} : List (Diff α) → List α → Prop
  | [], _ => True
  | d :: ds, v => d.validOn v = true ∧ ∃ v', d.apply v = some v' ∧ ValidSeq ds v'

/-- how a stage's output relates its view before and after -/
abbrev ValidRun {α} (o : List (Diff α)) (u u' : List α) : Prop := ValidSeq o u ∧ applyAll o u = some u'

theorem validRun_nil {α} (u : List α) : ValidRun [] u u := ⟨trivial, rfl⟩

theorem validRun_cons {α} (d : Diff α) (ds : List (Diff α)) (v v' : List α) :
    ValidRun (d :: ds) v v' ↔ ∃ v₁, (d.validOn v = true ∧ d.apply v = some v₁) ∧ ValidRun ds v₁ v' := by
  constructor
  · rintro ⟨⟨h1, v₁, h2, h3⟩, h4⟩; exact ⟨v₁, ⟨h1, h2⟩, h3, (applyAll_cons_valid ds h1 h2).symm.trans h4⟩
  · rintro ⟨v₁, ⟨h1, h2⟩, h3, h4⟩; exact ⟨⟨h1, v₁, h2, h3⟩, (applyAll_cons_valid ds h1 h2).trans h4⟩

theorem validRun_single {α} (d : Diff α) (v v' : List α) :
    ValidRun [d] v v' ↔ d.validOn v = true ∧ d.apply v = some v' :=
  (validRun_cons d [] v v').trans ⟨fun ⟨_, h, _, e⟩ => by cases e; exact h, fun h => ⟨v', h, validRun_nil v'⟩⟩

/-- no `Truncate` in the container (the Sort arm for it is the known finding D4) -/
def NoTrunc {α} (ds : List (Diff α)) : Prop := ∀ d ∈ ds, ∀ n, d ≠ .truncate n

/-- along the replay, every `Truncate` really shortens -/
def TruncOK {α} : List (Diff α) → List α → Prop
  | [], _ => True
  | d :: ds, v => (∀ n, d = .truncate n → n < v.length) ∧ ∀ v', d.apply v = some v' → TruncOK ds v'

theorem truncOK_of_noTrunc {α} (ds : List (Diff α)) (h : NoTrunc ds) : ∀ v, TruncOK ds v := by
  induction ds with
  | nil => intro v; trivial
  | cons d ds ih =>
    intro v
    refine ⟨fun n hn => absurd hn (h d (List.mem_cons_self ..) n), fun v' _ => ih (fun d' hd' => h d' (List.mem_cons_of_mem _ hd')) v'⟩

theorem validSeq_iff {α} (ds : List (Diff α)) : ∀ v, ValidSeq ds v ↔ (∃ v', applyAll ds v = some v') ∧ TruncOK ds v := by
  induction ds with
  | nil => intro v; simp [ValidSeq, TruncOK]
  | cons d ds ih =>
    intro v
    simp only [ValidSeq, TruncOK]
    constructor
    · rintro ⟨hvalid, v', happly, hrest⟩
      obtain ⟨⟨v'', hreplay⟩, htrunc⟩ := (ih v').mp hrest
      refine ⟨⟨v'', (applyAll_cons_valid ds hvalid happly).trans hreplay⟩, ((validOn_iff d v).mp hvalid).2, ?_⟩
      intro w hw; rw [happly] at hw; cases hw; exact htrunc
    · rintro ⟨⟨v'', hreplay⟩, ht, htrunc⟩
      obtain ⟨happ, v', happly, hreplay'⟩ := applyAll_cons_eq_some hreplay
      exact ⟨(validOn_iff d v).mpr ⟨happ, ht⟩, v', happly, (ih v').mpr ⟨⟨v'', hreplay'⟩, htrunc v' happly⟩⟩

theorem truncOK_append_iff {α} (a b : List (Diff α)) : ∀ v v', applyAll a v = some v' →
    (TruncOK (a ++ b) v ↔ TruncOK a v ∧ TruncOK b v') := by
  induction a with
  | nil => intro v v' h; cases h; exact ⟨fun g => ⟨trivial, g⟩, fun g => g.2⟩
  | cons d ds ih =>
    intro v v' h
    obtain ⟨_, w, hd, h⟩ := applyAll_cons_eq_some h
    have e : ∀ P : List α → Prop, (∀ w', d.apply v = some w' → P w') ↔ P w :=
      fun P => ⟨fun g => g w hd, fun g w' hw' => by cases hd.symm.trans hw'; exact g⟩
    simp only [List.cons_append, TruncOK, e, ih w v' h, and_assoc]

theorem noTrunc_nil {α} : NoTrunc ([] : List (Diff α)) := fun _ h => nomatch h

theorem noTrunc_cons {α} {d : Diff α} {ds : List (Diff α)} : NoTrunc (d :: ds) ↔ (∀ n, d ≠ .truncate n) ∧ NoTrunc ds :=
  List.forall_mem_cons

theorem noTrunc_singleton {α} {d : Diff α} (h : ∀ n, d ≠ .truncate n) : NoTrunc [d] :=
  noTrunc_cons.mpr ⟨h, noTrunc_nil⟩

theorem noTrunc_append {α} {a b : List (Diff α)} : NoTrunc (a ++ b) ↔ NoTrunc a ∧ NoTrunc b :=
  List.forall_mem_append

theorem noTrunc_replicate {α} (k : Nat) (d : Diff α) (h : ∀ n, d ≠ .truncate n) : NoTrunc (List.replicate k d) :=
  fun _ hx => List.eq_of_mem_replicate hx ▸ h

theorem noTrunc_map {α β} (xs : List β) (mk : β → Diff α) (h : ∀ x n, mk x ≠ .truncate n) : NoTrunc (xs.map mk) := by
  intro d hd
  obtain ⟨x, _, rfl⟩ := List.mem_map.mp hd
  exact h x

theorem validRun_of_truncOK {α} {o : List (Diff α)} {u u' : List α} (h : applyAll o u = some u') (ht : TruncOK o u) : ValidRun o u u' :=
  ⟨(validSeq_iff o u).mpr ⟨⟨u', h⟩, ht⟩, h⟩

theorem validRun_append {α} (a b : List (Diff α)) (u u' u'' : List α) (ha : ValidRun a u u') (hb : ValidRun b u' u'') :
    ValidRun (a ++ b) u u'' :=
  validRun_of_truncOK (replay_append a b u u' u'' ha.2 hb.2)
    ((truncOK_append_iff a b u u' ha.2).mpr ⟨((validSeq_iff a u).mp ha.1).2, ((validSeq_iff b u').mp hb.1).2⟩)

theorem truncOK_single {α} (d : Diff α) (v : List α) (h : d.validOn v = true) : TruncOK [d] v :=
  ⟨((validOn_iff d v).mp h).2, fun _ _ => trivial⟩

end EV
