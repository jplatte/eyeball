/-
  What the semaphore and a free lock do (`Model/ObsAsync`): a request that fits is granted, one that does not is queued; a
  release with nobody waiting only adds the permits; a call on a free lock takes its permits and gives them back.
-/
import EyeballVerif.Model.ObsAsync
namespace EV

/-- the lock is free: nobody holds a permit, nobody waits -/
def ASem.free (s : ASem) : Prop := s.avail = s.max ∧ s.queue = []

theorem ASem.acquire_of_le (s : ASem) (o : AOwner) {n : Nat} (h : n ≤ s.avail) :
    s.acquire o n = ({ s with avail := s.avail - n }, true) := if_pos h

theorem ASem.acquire_of_lt (s : ASem) (o : AOwner) {n : Nat} (h : s.avail < n) :
    s.acquire o n = ({ s with avail := 0, queue := s.queue ++ [⟨o, n, n - s.avail⟩] }, false) :=
  if_neg (Nat.not_le.2 h)

theorem releaseLoop_nil (n : Nat) : releaseLoop [] n = ([], n, []) := rfl

theorem ASem.release_nil (s : ASem) (n : Nat) (hq : s.queue = []) :
    s.release n = ({ s with avail := s.avail + n }, []) := by
  simp only [ASem.release, hq, releaseLoop_nil]

theorem AWorld.releaseN_nil (a : AWorld) (n : Nat) (hq : a.sem.queue = []) :
    a.releaseN n = ({ a with sem := { a.sem with avail := a.sem.avail + n } }, []) := by
  simp only [AWorld.releaseN, a.sem.release_nil n hq]
  rfl

/-- for any `P`: used with `P` = "still misses something" (`ASem.fair`) and `P` = the waiter condition of `QueueOK` (`SemInv`) -/
theorem ASem.acquire_keeps {P : AWaiter → Prop} (s : ASem) (o : AOwner) (n : Nat)
    (hP : s.avail < n → P ⟨o, n, n - s.avail⟩) (hfifo : s.queue ≠ [] → s.avail = 0) (hall : ∀ w ∈ s.queue, P w) :
    ((s.acquire o n).1.queue ≠ [] → (s.acquire o n).1.avail = 0) ∧ ∀ w ∈ (s.acquire o n).1.queue, P w := by
  rcases Nat.lt_or_ge s.avail n with hn | hn
  · rw [s.acquire_of_lt o hn]
    exact ⟨fun _ => rfl, fun w hw => (List.mem_append.1 hw).elim (hall w) fun hw => List.mem_singleton.1 hw ▸ hP hn⟩
  · rw [s.acquire_of_le o hn]
    exact ⟨fun hq => by simp only [hfifo hq, Nat.zero_sub], hall⟩

theorem releaseLoop_fifo (q : List AWaiter) (n : Nat) : (releaseLoop q n).1 ≠ [] → (releaseLoop q n).2.1 = 0 := by
  fun_induction releaseLoop q n with
  | case1 => exact fun h => absurd rfl h
  | case2 => exact fun _ => rfl
  | case3 _ _ _ _ _ _ ih => exact ih
  | case4 => exact fun _ => rfl

/-- the same two instances of `P` as for `ASem.acquire_keeps` -/
theorem releaseLoop_forall {P : AWaiter → Prop}
    (hP : ∀ w r, r < w.remaining → P w → P { w with remaining := w.remaining - r }) (q : List AWaiter) (n : Nat)
    (hq : ∀ w ∈ q, P w) : ∀ w ∈ (releaseLoop q n).1, P w := by
  fun_induction releaseLoop q n with
  | case1 => exact hq
  | case2 => exact hq
  | case3 _ _ _ _ _ _ ih => exact ih (List.forall_mem_cons.1 hq).2
  | case4 w _ rem _ h =>
    rw [List.forall_mem_cons] at hq ⊢
    exact ⟨hP w rem (Nat.not_le.1 h) hq.1, hq.2⟩

theorem ASem.release_fifo (s : ASem) (n : Nat) (h : s.queue ≠ [] → s.avail = 0) :
    (s.release n).1.queue ≠ [] → (s.release n).1.avail = 0 := by
  intro hq
  have hq0 : s.queue ≠ [] := fun e => hq (by rw [s.release_nil n e]; exact e)
  show s.avail + _ = 0
  rw [h hq0, releaseLoop_fifo _ _ hq]

theorem grant_w (a : AWorld) (wk : List AOwner) : (a.grant wk).w = a.w := by
  induction wk generalizing a with
  | nil => rfl
  | cons o os ih => exact (ih _).trans (by cases o <;> rfl)

theorem lset_getD (l : List FSt) (i j : Nat) (x : FSt) :
    (lset l i x).getD j .idle = if j = i then x else l.getD j .idle := by
  simp only [lset, List.getD_eq_getElem?_getD]
  split
  · rw [List.getElem?_set]; split <;> simp_all [eq_comm]
  · have hi : l.length + (i - l.length) = i := by omega
    simp only [List.getElem?_append, List.getElem?_replicate, List.length_append, List.length_replicate, hi]
    grind

/-- the result text `finishFut` prints for a write call -/
def wretStr : OWorld.WRet Nat → String
  | .unit => "-"
  | .val v => toString v
  | .opt none => "none"
  | .opt (some v) => "some(" ++ toString v ++ ")"

/-- all permits are taken and given back with nobody to wake: the semaphore is as it was, only the write itself remains -/
theorem AWorld.write_free {eqv : Nat → Nat → Bool} {hash : Nat → Nat} {a : AWorld} {h : Nat} {op : OWorld.WOp Nat}
    {w' : OWorld Nat} {r : OWorld.WRet Nat} {wk : List Nat} (hf : a.sem.free)
    (hw : a.w.write eqv hash 0 h op = some (w', r, wk)) :
    let st := a.startFut (.write h op)
    st.2.2 = true ∧ st.1.finishFut eqv hash st.2.1 =
      some ({ a with w := w', futs := a.futs ++ [⟨.write h op, .done⟩] }, wretStr r, [], wk) := by
  obtain ⟨hfull, hnoq⟩ := hf
  have hle : a.sem.max ≤ a.sem.avail := Nat.le_of_eq hfull.symm
  simp (disch := exact hnoq) only [AWorld.startFut, a.sem.acquire_of_le _ hle, AWorld.finishFut,
    List.getElem?_concat_length, hw, AWorld.releaseN_nil, Nat.sub_add_cancel hle, if_true, ne_eq, not_true_eq_false, if_false,
    true_and, List.set_append_right _ _ (Nat.le_refl _), Nat.sub_self, List.set_cons_zero]
  rfl

/-- the same for `next_now().await`, with one permit -/
theorem AWorld.nextNow_free {eqv : Nat → Nat → Bool} {hash : Nat → Nat} {a : AWorld} {i : Nat} {w' : OWorld Nat} {v : Nat}
    (hf : a.sem.free) (hmax : 0 < a.sem.max) (hn : a.w.nextNow i = some (w', v)) :
    let st := a.startFut (.nextNow i)
    st.2.2 = true ∧ st.1.finishFut eqv hash st.2.1 =
      some ({ a with w := w', futs := a.futs ++ [⟨.nextNow i, .done⟩] }, toString v, [], []) := by
  obtain ⟨hfull, hnoq⟩ := hf
  have hle : 1 ≤ a.sem.avail := hfull ▸ hmax
  simp (disch := exact hnoq) only [AWorld.startFut, a.sem.acquire_of_le _ hle, AWorld.finishFut,
    List.getElem?_concat_length, hn, AWorld.releaseN_nil, Nat.sub_add_cancel hle, if_true, ne_eq, not_true_eq_false, if_false,
    true_and, List.set_append_right _ _ (Nat.le_refl _), Nat.sub_self, List.set_cons_zero]

end EV
