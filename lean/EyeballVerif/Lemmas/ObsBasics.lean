/-
  Events and step function of the observable model (`OEv`, `OWorld.step`), and the lemmas that take a call apart: the guards
  every call starts with, what a poll and a writer call do.
-/
import EyeballVerif.Model.Obs
import EyeballVerif.Lemmas.ListExtra
namespace EV
open OWorld

/-- calls on an observable, its owners, subscribers and weak references -/
inductive OEv (α : Type) where
  | write (h : Nat) (op : WOp α)
  | subscribe (h : Nat) (reset : Bool)
  | poll (i : Nat)
  | nextNow (i : Nat)
  | reset (i : Nat)
  | subClone (i : Nat) (reset : Bool)
  | subDrop (i : Nat)
  | cloneOwner (h : Nat)
  | dropOwner (h : Nat)
  | downgrade (h : Nat)
  | upgrade (k : Nat)
  | dropWeak (k : Nat)
  | cloneWeak (k : Nat)
  | intoShared

/-- one call; a call on a handle that does not exist (any more) is not a call: the world is unchanged -/
def OWorld.step {α} (eqv : α → α → Bool) (hash : α → Nat) (dflt : α) (w : OWorld α) : OEv α → OWorld α
  | .write h op => match w.write eqv hash dflt h op with | some (w', _, _) => w' | none => w
  | .subscribe h r => match w.subscribe h r with | some (w', _) => w' | none => w
  | .poll i => match w.poll i with | some (w', _) => w' | none => w
  | .nextNow i => match w.nextNow i with | some (w', _) => w' | none => w
  | .reset i => (w.reset i).getD w
  | .subClone i r => match w.subClone i r with | some (w', _) => w' | none => w
  | .subDrop i => (w.subDrop i).getD w
  | .cloneOwner h => match w.cloneOwner h with | some (w', _) => w' | none => w
  | .dropOwner h => match w.dropOwner h with | some (w', _) => w' | none => w
  | .downgrade h => match w.downgrade h with | some (w', _) => w' | none => w
  | .upgrade k => match w.upgrade k with | some (w', _) => w' | none => w
  | .dropWeak k => (w.dropWeak k).getD w
  | .cloneWeak k => match w.cloneWeak k with | some (w', _) => w' | none => w
  | .intoShared => match w.intoShared with | some (w', _) => w' | none => w

section
variable {α : Type} {w : OWorld α}

/-- calls through a handle that must be live (`c`): core's `Option.ite_none_left_eq_some` with `!c` read as `c = true` -/
theorem guard_eq_some {β : Type} {c : Bool} {o : Option β} {x : β} (h : (if !c then none else o) = some x) :
    c = true ∧ o = some x := by
  simpa using Option.ite_none_left_eq_some.mp h

/-- every call on a subscriber has this form; applies to `h : w.reset i = some w'` etc. as it stands (they unfold to the `match`) -/
theorem liveSub_eq_some {β : Type} {o : Option SubSt} {f : SubSt → Option β} {x : β}
    (h : (match o with | none => none | some s => if !s.alive then none else f s) = some x) :
    ∃ s, o = some s ∧ s.alive = true ∧ f s = some x := by
  cases o with
  | none => cases h
  | some s => cases ha : s.alive <;> simp [ha] at h; exact ⟨s, rfl, ha, h⟩

theorem OWorld.poll_eq_some_iff {i : Nat} {x : OWorld α × PollRes α} :
    w.poll i = some x ↔ ∃ s, w.subs[i]? = some s ∧ s.alive = true ∧
      (if w.st.version = 0 then ({ w with subs := w.subs.set i { s with parked := false } }, .done)
      else if s.observed < w.st.version then
        ({ w with subs := w.subs.set i { s with observed := w.st.version, fresh := false, parked := false } },
         .ready w.st.value)
      else ({ w with st := { w.st with wakers := w.st.wakers ++ [i] },
                     subs := w.subs.set i { s with parked := true } }, .pending)) = x := by
  unfold OWorld.poll ObsSt.pollUpdate
  cases w.subs[i]? with
  | none => simp
  | some s =>
    cases ha : s.alive
    · simp [ha]
    · by_cases hv : w.st.version = 0
      · simp [ha, hv]
      · by_cases hlt : s.observed < w.st.version <;> simp [ha, hv, hlt]

theorem OWorld.write_spec {eqv : α → α → Bool} {hash : α → Nat} {dflt : α} {h : Nat} {op : WOp α} {w' : OWorld α}
    {r : WRet α} {wk : List Nat} (hw : w.write eqv hash dflt h op = some (w', r, wk)) :
    w.ownerAlive h = true ∧ ∃ v,
      (w' = { w with st := { value := v, version := w.st.version + 1, wakers := [] } }.markFresh ∧ wk = w.st.wakers) ∨
      (w' = { w with st := { w.st with value := v } } ∧ wk = []) := by
  obtain ⟨ha, hw⟩ := guard_eq_some hw
  refine ⟨ha, ?_⟩
  cases op with
  | set v => cases hw; exact ⟨v, .inl ⟨rfl, rfl⟩⟩
  | take => cases hw; exact ⟨dflt, .inl ⟨rfl, rfl⟩⟩
  | update f => cases hw; exact ⟨f w.st.value, .inl ⟨rfl, rfl⟩⟩
  | setIfNotEq v =>
    simp only [ObsSt.setIfNotEq] at hw
    split at hw <;> cases hw
    · exact ⟨v, .inl ⟨rfl, rfl⟩⟩
    · exact ⟨w.st.value, .inr ⟨rfl, rfl⟩⟩
  | setIfHashNotEq v =>
    simp only [ObsSt.setIfHashNotEq] at hw
    split at hw <;> cases hw
    · exact ⟨v, .inl ⟨rfl, rfl⟩⟩
    · exact ⟨w.st.value, .inr ⟨rfl, rfl⟩⟩
  | updateIf f n =>
    cases n <;> cases hw
    · exact ⟨f w.st.value, .inr ⟨rfl, rfl⟩⟩
    · exact ⟨f w.st.value, .inl ⟨rfl, rfl⟩⟩

end

end EV
