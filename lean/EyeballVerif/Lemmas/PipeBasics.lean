/-
  Model/Pipe's own lemmas: each operation of the poll loop characterised once, so that proofs elsewhere never unfold
  `pollStages` or `limPoll`; the model's three container loops shown to be one fold (`foldDiffs`).
-/
import EyeballVerif.Model.Pipe
namespace EV

theorem emit_eq_some_iff {α} {b : Bool} {ds rest : List (Diff α)} {it : Item α} :
    emit b ds = some (it, rest) ↔
      ∃ d r, ds = d :: r ∧ (b = true ∧ it = .batch ds ∧ rest = [] ∨ b = false ∧ it = .one d ∧ rest = r) := by
  cases ds with
  | nil => exact ⟨nofun, fun ⟨_, _, h, _⟩ => nomatch h⟩
  | cons d r =>
    constructor
    · intro h
      cases b <;> cases h
      · exact ⟨_, _, rfl, .inr ⟨rfl, rfl, rfl⟩⟩
      · exact ⟨_, _, rfl, .inl ⟨rfl, rfl, rfl⟩⟩
    · rintro ⟨_, _, e, ⟨rfl, rfl, rfl⟩ | ⟨rfl, rfl, rfl⟩⟩ <;> cases e <;> rfl

theorem emit_nonempty {α} (b : Bool) (ds : List (Diff α)) (xs rest : List (Diff α))
    (h : emit b ds = some (.batch xs, rest)) : xs ≠ [] := by
  obtain ⟨d, r, rfl, ⟨-, e, -⟩ | ⟨-, e, -⟩⟩ := emit_eq_some_iff.mp h <;> cases e
  nofun

theorem emit_ne_pending {α} (b : Bool) (ds rest : List (Diff α)) : emit b ds ≠ some (.pending, rest) := fun he => by
  obtain ⟨_, _, _, ⟨-, e, -⟩ | ⟨-, e, -⟩⟩ := emit_eq_some_iff.mp he <;> cases e

theorem itemDiffs_eq_some_iff {α} {it : Item α} {ds : List (Diff α)} :
    itemDiffs it = some ds ↔ it = .batch ds ∨ ∃ d, it = .one d ∧ ds = [d] := by
  cases it <;> simp [itemDiffs, eq_comm]

theorem limPoll_cases {α} (w : PWorld α) (k : Option Nat) :
    (limPoll w k = (.ended, w) ∧ ∀ j l, k = some j → w.lims[j]? = some l → l.q = [] ∧ l.closed = true) ∨
    ∃ j l, k = some j ∧ w.lims[j]? = some l ∧
      ((∃ v rest, l.q = v :: rest ∧
          limPoll w k = (.value v, { w with lims := w.lims.set j { l with q := rest, waiting := false } })) ∨
       (l.q = [] ∧ l.closed = false ∧ limPoll w k = (.pending, { w with lims := w.lims.set j { l with waiting := true } }))) := by
  cases k with
  | none => exact .inl ⟨rfl, nofun⟩
  | some j =>
    cases hl : w.lims[j]? with
    | none => exact .inl ⟨by simp only [limPoll, hl], fun _ _ e h => by cases e; rw [hl] at h; cases h⟩
    | some l =>
      cases hq : l.q with
      | cons v rest => exact .inr ⟨j, l, rfl, hl, .inl ⟨v, rest, hq, by simp only [limPoll, hl, hq]⟩⟩
      | nil =>
        cases hc : l.closed with
        | true => exact .inl ⟨by simp only [limPoll, hl, hq, hc, if_true], fun _ _ e h => by cases e; rw [hl] at h; cases h; exact ⟨hq, hc⟩⟩
        | false => exact .inr ⟨j, l, rfl, hl, .inr ⟨hq, hc, by simp only [limPoll, hl, hq, hc, Bool.false_eq_true, if_false]⟩⟩

theorem limPoll_frame {α} (w : PWorld α) (k : Option Nat) : (limPoll w k).2.ov = w.ov := by
  rcases limPoll_cases w k with ⟨h, _⟩ | ⟨j, l, _, _, ⟨v, rest, _, h⟩ | ⟨_, _, h⟩⟩ <;> rw [h]

inductive StageKind where
  | head | tail | skip | filter | sort
  deriving DecidableEq

/-- adapter and limit stream of a stage: `setReady`, `onLimit`, `onDiffs` keep them -/
def Stage.kind {α} : Stage α → StageKind × Option Nat
  | .head _ k _ _ => (.head, k)
  | .tail _ k _ _ => (.tail, k)
  | .skip _ k _ _ => (.skip, k)
  | .filter _ _ => (.filter, none)
  | .sort _ _ _ => (.sort, none)

theorem Stage.limOf_eq_kind_snd {α} (st : Stage α) : st.limOf = st.kind.2 := by cases st <;> rfl

theorem Stage.limOf_of_kind {α} {st st' : Stage α} (h : st'.kind = st.kind) : st'.limOf = st.limOf := by
  rw [limOf_eq_kind_snd, limOf_eq_kind_snd, h]

theorem kind_setReady {α} (st : Stage α) (r : List (Diff α)) : (st.setReady r).kind = st.kind := by cases st <;> rfl

theorem kind_onLimit {α} {st st1 : Stage α} {v : Nat} {ds : List (Diff α)} (h : st.onLimit v = (ds, st1)) : st1.kind = st.kind := by
  cases st <;> cases h <;> rfl

theorem setReady_self {α} (st : Stage α) (h : st.ready = []) : st.setReady [] = st := by
  cases st with
  | filter _ _ => rfl
  | _ => cases h; rfl

theorem ready_setReady_of_filter_nil {α} (st : Stage α) (r : List (Diff α)) (h : st.kind.1 = .filter → r = []) : (st.setReady r).ready = r := by
  cases st with
  | filter _ _ => exact (h rfl).symm
  | _ => rfl

theorem filter_ready_limOf {α} (st : Stage α) (h : st.kind.1 = .filter) : st.ready = [] ∧ st.limOf = none := by
  cases st with
  | filter _ _ => exact ⟨rfl, rfl⟩
  | _ => cases h

theorem ready_onLimit {α} (st : Stage α) (v : Nat) : (st.onLimit v).2.ready = st.ready := by cases st <;> rfl

theorem onDiffs_frame {α} (T : Tables α) (st st2 : Stage α) (ds out : List (Diff α)) (h : st.onDiffs T ds = some (out, st2)) :
    st2.kind = st.kind ∧ st2.ready = st.ready := by
  cases st with
  | filter fid fst => cases h; exact ⟨rfl, rfl⟩
  | _ => obtain ⟨p, -, e⟩ := Option.map_eq_some_iff.mp h; cases e; exact ⟨rfl, rfl⟩

/-! The ten cases of `fun_induction pollStages`: 1 out of fuel; 2 / 3 the receiver answers / panics; 4 a buffered diff;
  5 / 6 a limit value that yields diffs / none (loop); 7–10 the inner stream yields no container / one on which the
  stage panics / one that yields diffs / none (loop). -/

theorem pollStages_kind {α} (T : Tables α) (b : Bool) (sub fuel : Nat) (sts : List (Stage α)) (w : PWorld α) :
    (pollStages T b sub fuel sts w).2.1.map Stage.kind = sts.map Stage.kind := by
  fun_induction pollStages T b sub fuel sts w with
  | case1 | case2 | case3 => rfl
  | case4 n st inner w d rest hr => simp only [List.map_cons, kind_setReady]
  | case5 n st inner w hr v w1 hlp ds st1 hol it rest hem => simp only [List.map_cons, kind_setReady, kind_onLimit hol]
  | case6 n st inner w hr v w1 hlp ds st1 hol hem ih => rw [ih, List.map_cons, List.map_cons, kind_onLimit hol]
  | case7 n st inner w hr lres w1 hnv hlp it inner' w2 hin hd ih
  | case8 n st inner w hr lres w1 hnv hlp it inner' w2 hin ds hd hod ih =>
    rw [hin] at ih
    simp only [List.map_cons, ih]
  | case9 n st inner w hr lres w1 hnv hlp it inner' w2 hin ds hd out st2 hod it' rest hem ih =>
    rw [hin] at ih
    simp only [List.map_cons, kind_setReady, (onDiffs_frame T st st2 ds out hod).1, ih]
  | case10 n st inner w hr lres w1 hnv hlp it inner' w2 hin ds hd out st2 hod hem ih2 ih1 =>
    rw [hin] at ih2
    rw [ih1, List.map_cons, List.map_cons, (onDiffs_frame T st st2 ds out hod).1, ih2]

/-- **Invariant principle for polling a pipeline.** Whatever is preserved by polling a limit stream and by
    polling the receiver is preserved by polling the whole chain. -/
theorem pollStages_preserves {α} (T : Tables α) (b : Bool) (sub : Nat) (P : PWorld α → Prop)
    (hlim : ∀ w k, P w → P (limPoll w k).2)
    (hov : ∀ (w : PWorld α) it ov', w.ov.poll sub = some (it, ov') → P w → P { w with ov := ov' }) :
    ∀ (fuel : Nat) (sts : List (Stage α)) (w : PWorld α), P w → P (pollStages T b sub fuel sts w).2.2 := by
  intro fuel sts w hw
  have hlim' : ∀ {w k res w1}, limPoll w k = (res, w1) → P w → P w1 := fun {w k _ _} e hw => by have := hlim w k hw; rwa [e] at this
  fun_induction pollStages T b sub fuel sts w with
  | case1 | case3 | case4 => exact hw
  | case2 n w it ov' hp => exact hov _ _ _ hp hw
  | case5 n st inner w hr v w1 hlp => exact hlim' hlp hw
  | case6 n st inner w hr v w1 hlp ds st1 hol hem ih => exact ih (hlim' hlp hw)
  | case7 n st inner w hr lres w1 hnv hlp it inner' w2 hin hd ih
  | case8 n st inner w hr lres w1 hnv hlp it inner' w2 hin ds hd hod ih
  | case9 n st inner w hr lres w1 hnv hlp it inner' w2 hin ds hd out st2 hod it' rest hem ih =>
    have h2 := ih (hlim' hlp hw); rw [hin] at h2; exact h2
  | case10 n st inner w hr lres w1 hnv hlp it inner' w2 hin ds hd out st2 hod hem ih2 ih1 =>
    have h2 := ih2 (hlim' hlp hw); rw [hin] at h2; exact ih1 h2

/-- item principle: a property of items that holds for what the receiver yields, for buffered diffs, for
    `panic` and for whatever `emit` wraps holds for what the chain yields -/
theorem pollStages_item {α} (T : Tables α) (b : Bool) (sub : Nat) (P : PWorld α → Prop) (Q : Item α → Prop)
    (hlim : ∀ w k, P w → P (limPoll w k).2)
    (hov : ∀ (w : PWorld α) it ov', w.ov.poll sub = some (it, ov') → P w → P { w with ov := ov' })
    (hbase : ∀ (w : PWorld α) it ov', P w → w.ov.poll sub = some (it, ov') → Q it)
    (hone : ∀ d, Q (.one d)) (hpanic : Q .panic)
    (hemit : ∀ ds it rest, emit b ds = some (it, rest) → Q it) :
    ∀ (fuel : Nat) (sts : List (Stage α)) (w : PWorld α), P w → Q (pollStages T b sub fuel sts w).1 := by
  intro fuel sts w hw
  have hlim' : ∀ {w k res w1}, limPoll w k = (res, w1) → P w → P w1 := fun {w k _ _} e hw => by have := hlim w k hw; rwa [e] at this
  fun_induction pollStages T b sub fuel sts w with
  | case1 | case3 | case8 => exact hpanic
  | case2 n w it ov' hp => exact hbase _ _ _ hw hp
  | case4 => exact hone _
  | case5 n st inner w hr v w1 hlp ds st1 hol it rest hem => exact hemit _ _ _ hem
  | case9 n st inner w hr lres w1 hnv hlp it inner' w2 hin ds hd out st2 hod it' rest hem ih => exact hemit _ _ _ hem
  | case6 n st inner w hr v w1 hlp ds st1 hol hem ih => exact ih (hlim' hlp hw)
  | case7 n st inner w hr lres w1 hnv hlp it inner' w2 hin hd ih =>
    have h2 := ih (hlim' hlp hw); rw [hin] at h2; exact h2
  | case10 n st inner w hr lres w1 hnv hlp it inner' w2 hin ds hd out st2 hod hem ih2 ih1 =>
    have h2 := pollStages_preserves T b sub P hlim hov n inner w1 (hlim' hlp hw); rw [hin] at h2; exact ih1 h2

theorem pollStages_nil {α} (T : Tables α) (b : Bool) (sub n : Nat) (w : PWorld α) :
    pollStages T b sub (n + 1) [] w =
      match w.ov.poll sub with
      | some (it, ov') => (it, [], { w with ov := ov' })
      | none => (.panic, [], w) := by
  simp only [pollStages]
  rfl

theorem pollStages_cons_ready {α} (T : Tables α) (b : Bool) (sub n : Nat) (st : Stage α) (inner : List (Stage α)) (w : PWorld α)
    (d : Diff α) (rest : List (Diff α)) (hr : st.ready = d :: rest) :
    pollStages T b sub (n + 1) (st :: inner) w = (.one d, st.setReady rest :: inner, w) := by
  simp only [pollStages, hr]

theorem pollStages_cons_value {α} (T : Tables α) (b : Bool) (sub n : Nat) (st : Stage α) (inner : List (Stage α)) (w : PWorld α)
    (v : Nat) (w1 : PWorld α) (hr : st.ready = []) (hl : limPoll w st.limOf = (.value v, w1)) :
    pollStages T b sub (n + 1) (st :: inner) w =
      (match emit b (st.onLimit v).1 with
       | some (it, rest) => (it, (st.onLimit v).2.setReady rest :: inner, w1)
       | none => pollStages T b sub n ((st.onLimit v).2 :: inner) w1) := by
  simp only [pollStages, hr, hl]
  rfl

theorem pollStages_cons_novalue {α} (T : Tables α) (b : Bool) (sub n : Nat) (st : Stage α) (inner : List (Stage α)) (w : PWorld α)
    (hr : st.ready = []) (hl : ∀ v, (limPoll w st.limOf).1 ≠ .value v) :
    pollStages T b sub (n + 1) (st :: inner) w =
      match pollStages T b sub n inner (limPoll w st.limOf).2 with
      | (it, inner', w2) =>
        match itemDiffs it with
        | none => (it, st :: inner', w2)
        | some ds =>
          match st.onDiffs T ds with
          | none => (.panic, st :: inner', w2)
          | some (out, st2) =>
            match emit b out with
            | some (it', rest) => (it', st2.setReady rest :: inner', w2)
            | none => pollStages T b sub n (st2 :: inner') w2 := by
  simp only [pollStages, hr]
  generalize limPoll w st.limOf = lp at hl
  obtain ⟨lres, w1⟩ := lp
  cases lres with
  | value v => exact absurd rfl (hl v)
  | pending => rfl
  | ended => rfl

/-- **fuel is only a termination device**: once a poll of the pipeline comes back without `panic`, more fuel gives
    exactly the same result -/
theorem pollStages_fuel_succ {α} (T : Tables α) (b : Bool) (sub : Nat) :
    ∀ (n : Nat) (sts : List (Stage α)) (w : PWorld α), (pollStages T b sub n sts w).1 ≠ .panic →
      pollStages T b sub (n + 1) sts w = pollStages T b sub n sts w := by
  intro n sts w h
  fun_induction pollStages T b sub n sts w with
  | case1 | case3 | case8 => exact absurd rfl h
  | case2 n w it ov' hp => simp only [pollStages, hp]
  | case4 n st inner w d rest hr => simp only [pollStages, hr]
  | case5 n st inner w hr v w1 hlp ds st1 hol it rest hem => simp only [pollStages, hr, hlp, hol, hem]
  | case6 n st inner w hr v w1 hlp ds st1 hol hem ih =>
    -- one step by the equation: `simp only [pollStages]` would unfold the recursive call as well
    rw [pollStages_cons_value T b sub (n + 1) st inner w v w1 hr hlp]
    simp only [hol, hem]
    exact ih h
  | case7 n st inner w hr lres w1 hnv hlp it inner' w2 hin hd ih =>
    rw [hin] at ih
    simp only [pollStages, hr, hlp, ih h, hd]
  | case9 n st inner w hr lres w1 hnv hlp it inner' w2 hin ds hd out st2 hod it' rest hem ih =>
    rw [hin] at ih
    simp only [pollStages, hr, hlp, ih (by rintro rfl; cases hd), hd, hod, hem]
  | case10 n st inner w hr lres w1 hnv hlp it inner' w2 hin ds hd out st2 hod hem ih2 ih1 =>
    rw [hin] at ih2
    have hl : ∀ v, (limPoll w st.limOf).1 ≠ .value v := fun v hv => hnv v (by rw [hlp] at hv; exact hv)
    rw [pollStages_cons_novalue T b sub (n + 1) st inner w hr hl]
    simp only [hlp, ih2 (by rintro rfl; cases hd), hd, hod, hem]
    exact ih1 h

theorem pollStages_fuel_stable {α} (T : Tables α) (b : Bool) (sub : Nat) (n : Nat) (sts : List (Stage α)) (w : PWorld α)
    (h : (pollStages T b sub n sts w).1 ≠ .panic) : ∀ m, n ≤ m → pollStages T b sub m sts w = pollStages T b sub n sts w := by
  intro m hm
  induction hm with
  | refl => rfl
  | step _ ih => rw [pollStages_fuel_succ T b sub _ sts w (by rw [ih]; exact h), ih]

/-- The model's three container loops — `mapDiffs`, Filter's `foldl`, `sortDiffs` — are this one fold; `none` as soon as
    a step fails. -/
def foldDiffs {σ α β} (step : Diff α → σ → Option (List (Diff β) × σ)) : List (Diff α) → σ → Option (List (Diff β) × σ)
  | [], s => some ([], s)
  | d :: ds, s => (step d s).bind fun p => (foldDiffs step ds p.2).map fun q => (p.1 ++ q.1, q.2)

def mapStep {α} (h : Diff α → Nat → List α → List (Diff α)) (d : Diff α) (b : List α) : Option (List (Diff α) × List α) :=
  (d.apply b).map fun b' => (h d b.length b', b')

def filterStep {α} (f : α → Option α) (d : Diff α) (s : FilterSt) : Option (List (Diff α) × FilterSt) :=
  some ((Filter.handle f d s).1.toList, (Filter.handle f d s).2)

/-- (`mapDiffs` returns `(buffer, output)`, the fold `(output, state)`) -/
theorem mapDiffs_eq_fold {α} (h : Diff α → Nat → List α → List (Diff α)) (ds : List (Diff α)) : ∀ (buf : List α) (out : List (Diff α)),
    mapDiffs h ds buf out =
      (foldDiffs (mapStep h) ds buf).map fun p => (p.2, out ++ p.1) := by
  induction ds with
  | nil => intro buf out; simp [mapDiffs, foldDiffs]
  | cons d ds ih =>
    intro buf out
    simp only [mapDiffs, foldDiffs, mapStep]
    cases d.apply buf with
    | none => rfl
    | some b' =>
      simp only [ih, Option.map_some, Option.bind_some, Option.map_map]
      cases foldDiffs _ ds b' <;> simp [List.append_assoc]

theorem sortDiffs_eq_fold {α} (cmp : α → α → Ordering) (sortFn : List (Nat × α) → List (Nat × α)) (ds : List (Diff α)) :
    ∀ (out : List (Diff α)) (b : List (Nat × α)),
    sortDiffs cmp sortFn ds out b = (foldDiffs (Srt.handle cmp sortFn) ds b).map fun p => (out ++ p.1, p.2) := by
  induction ds with
  | nil => intro out b; simp [sortDiffs, foldDiffs]
  | cons d ds ih =>
    intro out b
    simp only [sortDiffs, foldDiffs]
    cases Srt.handle cmp sortFn d b with
    | none => rfl
    | some p =>
      simp only [ih, Option.bind_some, Option.map_map]
      cases foldDiffs _ ds p.2 <;> simp [List.append_assoc]

/-- (`filterStep` never fails: the fold is `some`) -/
theorem filterFold_eq_fold {α} (f : α → Option α) (ds : List (Diff α)) : ∀ (acc : List (Diff α) × FilterSt),
    ∃ p, foldDiffs (filterStep f) ds acc.2 = some p ∧
      ds.foldl (fun (acc : List (Diff α) × FilterSt) d =>
        let (o, s) := Filter.handle f d acc.2
        (acc.1 ++ o.toList, s)) acc = (acc.1 ++ p.1, p.2) := by
  induction ds with
  | nil => intro acc; exact ⟨([], acc.2), rfl, by simp⟩
  | cons d ds ih =>
    intro acc
    obtain ⟨p, hp, hf⟩ := ih (acc.1 ++ (Filter.handle f d acc.2).1.toList, (Filter.handle f d acc.2).2)
    exact ⟨((Filter.handle f d acc.2).1.toList ++ p.1, p.2), by simp only [foldDiffs, filterStep, Option.bind_some, hp, Option.map_some],
      by simp only [List.foldl_cons, hf, List.append_assoc]⟩

theorem onDiffs_head_eq_fold {α} (T : Tables α) (l : Nat) (k : Option Nat) (buf : List α) (r ds : List (Diff α)) :
    (Stage.head l k buf r).onDiffs T ds =
      (foldDiffs (mapStep fun d pl b => Head.handleDiff d l pl b) ds buf).map fun p => (p.1, .head l k p.2 r) := by
  simp only [Stage.onDiffs, mapDiffs_eq_fold, Option.map_map]; rfl

theorem onDiffs_tail_eq_fold {α} (T : Tables α) (l : Nat) (k : Option Nat) (buf : List α) (r ds : List (Diff α)) :
    (Stage.tail l k buf r).onDiffs T ds =
      (foldDiffs (mapStep fun d pl b => Tail.handleDiff d l pl b) ds buf).map fun p => (p.1, .tail l k p.2 r) := by
  simp only [Stage.onDiffs, mapDiffs_eq_fold, Option.map_map]; rfl

/-- Skip's handler as `Stage.onDiffs` runs it: nothing is emitted while the count is unknown. (Named, because a second
    `match c with …` written out elsewhere is a different auxiliary matcher and `rw` will not see through it.) -/
def skipHandler {α} (c : Option Nat) (d : Diff α) (pl : Nat) (b : List α) : List (Diff α) :=
  match c with
  | some c => Skip.handleDiff d c pl b
  | none => []

theorem onDiffs_skip_eq_fold {α} (T : Tables α) (c k : Option Nat) (buf : List α) (r ds : List (Diff α)) :
    (Stage.skip c k buf r).onDiffs T ds = (foldDiffs (mapStep (skipHandler c)) ds buf).map fun p => (p.1, .skip c k p.2 r) := by
  simp only [Stage.onDiffs, mapDiffs_eq_fold, Option.map_map]; rfl

theorem onDiffs_filter_eq_fold {α} (T : Tables α) (fid : Nat) (st : FilterSt) (ds : List (Diff α)) :
    (Stage.filter fid st).onDiffs T ds = (foldDiffs (filterStep (T.filt fid)) ds st).map fun p => (p.1, .filter fid p.2) := by
  obtain ⟨p, hp, hf⟩ := filterFold_eq_fold (T.filt fid) ds ([], st)
  simp only [Stage.onDiffs, hf, hp, List.nil_append, Option.map_some]

theorem onDiffs_sort_eq_fold {α} (T : Tables α) (cid : Nat) (buf : List (Nat × α)) (r ds : List (Diff α)) :
    (Stage.sort cid buf r).onDiffs T ds =
      (foldDiffs (Srt.handle (T.cmp cid) (T.sort cid)) ds buf).map fun p => (p.1, .sort cid p.2 r) := by
  simp only [Stage.onDiffs, sortDiffs_eq_fold, Option.map_map]; rfl

theorem foldDiffs_cons_eq_some_iff {σ α β} {step : Diff α → σ → Option (List (Diff β) × σ)} {d : Diff α} {ds : List (Diff α)}
    {s s' : σ} {out : List (Diff β)} :
    foldDiffs step (d :: ds) s = some (out, s') ↔
      ∃ o s₁ out', step d s = some (o, s₁) ∧ foldDiffs step ds s₁ = some (out', s') ∧ out = o ++ out' := by
  constructor
  · intro h
    obtain ⟨p, hstep, h⟩ := Option.bind_eq_some_iff.mp h
    obtain ⟨q, hfold, e⟩ := Option.map_eq_some_iff.mp h
    cases e
    exact ⟨p.1, p.2, q.1, hstep, hfold, rfl⟩
  · rintro ⟨o, s₁, out', hstep, hfold, rfl⟩
    simp only [foldDiffs, hstep, hfold, Option.bind_some, Option.map_some]

theorem foldDiffs_append {σ α β} (step : Diff α → σ → Option (List (Diff β) × σ)) (a b : List (Diff α)) : ∀ s,
    foldDiffs step (a ++ b) s = (foldDiffs step a s).bind fun p => (foldDiffs step b p.2).map fun q => (p.1 ++ q.1, q.2) := by
  induction a with
  | nil => intro s; simp [foldDiffs]
  | cons d ds ih =>
    intro s
    simp only [List.cons_append, foldDiffs, ih]
    cases step d s with
    | none => rfl
    | some p =>
      simp only [Option.bind_some]
      cases foldDiffs step ds p.2 with
      | none => rfl
      | some q => simp only [Option.map_some, Option.bind_some, Option.map_map]; cases foldDiffs step b q.2 <;> simp [List.append_assoc]

theorem foldDiffs_forall {σ α β} (step : Diff α → σ → Option (List (Diff β) × σ)) (P : Diff α → Prop) (Q : Diff β → Prop)
    (hstep : ∀ d s o s', P d → step d s = some (o, s') → ∀ x ∈ o, Q x) :
    ∀ (ds : List (Diff α)) s out s', (∀ d ∈ ds, P d) → foldDiffs step ds s = some (out, s') → ∀ x ∈ out, Q x := by
  intro ds
  induction ds with
  | nil => intro s out s' _ h; cases h; nofun
  | cons d ds ih =>
    intro s out s' hp h
    obtain ⟨o, s₁, out', h1, h2, rfl⟩ := foldDiffs_cons_eq_some_iff.mp h
    obtain ⟨hd, hds⟩ := List.forall_mem_cons.mp hp
    intro x hx
    rcases List.mem_append.mp hx with hx | hx
    · exact hstep d s o s₁ hd h1 x hx
    · exact ih s₁ out' s' hds h2 x hx

theorem foldDiffs_length_le {σ α β} (step : Diff α → σ → Option (List (Diff β) × σ))
    (hstep : ∀ d s o s', step d s = some (o, s') → o.length ≤ 1) :
    ∀ (ds : List (Diff α)) s out s', foldDiffs step ds s = some (out, s') → out.length ≤ ds.length := by
  intro ds
  induction ds with
  | nil => intro s out s' h; cases h; exact Nat.le_refl 0
  | cons d ds ih =>
    intro s out s' h
    obtain ⟨o, s₁, out', h1, h2, rfl⟩ := foldDiffs_cons_eq_some_iff.mp h
    have := hstep d s o s₁ h1
    have := ih s₁ out' s' h2
    simp only [List.length_append, List.length_cons]
    omega

theorem filter_onDiffs_length {α} (T : Tables α) (st st2 : Stage α) (ds out : List (Diff α)) (hf : st.kind.1 = .filter)
    (h : st.onDiffs T ds = some (out, st2)) : out.length ≤ ds.length := by
  cases st with
  | filter fid fst =>
    rw [onDiffs_filter_eq_fold] at h
    obtain ⟨p, h1, h2⟩ := Option.map_eq_some_iff.mp h
    cases h2
    refine foldDiffs_length_le (filterStep (T.filt fid)) (fun d s o s' hs => ?_) ds fst p.1 p.2 h1
    cases hs
    cases (Filter.handle (T.filt fid) d s).1 <;> simp
  | _ => cases hf

theorem mkPipe_induct {α} (T : Tables α) (vals : List α) (specs : List StageSpec) (P : List (Stage α) → List α → Prop)
    (h0 : P [] vals) (hstep : ∀ sts v sp, sp ∈ specs → P sts v → P ((mkStage T v sp).1 :: sts) (mkStage T v sp).2) :
    P (mkPipe T vals specs).1 (mkPipe T vals specs).2 :=
  List.foldlRecOn specs _ (motive := fun acc : List (Stage α) × List α => P acc.1 acc.2) h0
    fun acc h sp hsp => hstep acc.1 acc.2 sp hsp h

theorem mkPipe_forall {α} (T : Tables α) (vals : List α) (specs : List StageSpec) (C : Stage α → Prop)
    (h : ∀ sp ∈ specs, ∀ v, C (mkStage T v sp).1) : ∀ st ∈ (mkPipe T vals specs).1, C st :=
  mkPipe_induct T vals specs (fun sts _ => ∀ st ∈ sts, C st) (List.forall_mem_nil _)
    fun _ v sp hsp ih => List.forall_mem_cons.mpr ⟨h sp hsp v, ih⟩

theorem mkPipe_ready {α} (T : Tables α) (vals : List α) (specs : List StageSpec) : ∀ st ∈ (mkPipe T vals specs).1, st.ready = [] :=
  mkPipe_forall T vals specs _ fun sp _ _ => by cases sp <;> rfl


end EV

