/-
  The stream invariant at the granularity of single receive operations (`Model/OVecStep`): `StInv` = `VInv` of the underlying
  world (the ghost replica following the cursor) + one clause per phase of a receiver inside a `poll_next`; kept by every
  receive operation and by every other event in between, hence along every interleaving.
-/
import EyeballVerif.Model.OVecStep
import EyeballVerif.Lemmas.StreamInv
namespace EV

theorem skipped_self {α} (log : List (Msg α)) (n : Nat) : skipped log n n = [] := by simp [skipped]

theorem skipped_one {α} {log : List (Msg α)} {n : Nat} {m : Msg α} (h : log[n]? = some m) : skipped log n (n + 1) = m.diffs := by
  simp [skipped, List.take_one, List.head?_drop, h]

theorem skipped_trans {α} (log : List (Msg α)) (a b c : Nat) (hab : a ≤ b) (hbc : b ≤ c) :
    skipped log a b ++ skipped log b c = skipped log a c := by
  unfold skipped
  rw [← List.flatMap_append, ← drop_drop_sub log hab, show c - a = (b - a) + (c - b) by omega, List.take_add]

theorem flat_split {α} (log : List (Msg α)) (a b : Nat) (hab : a ≤ b) :
    (log.drop a).flatMap (·.diffs) = skipped log a b ++ (log.drop b).flatMap (·.diffs) := by
  unfold skipped
  rw [← List.flatMap_append, ← drop_drop_sub log hab, List.take_append_drop]

theorem owed_jump {α} {log : List (Msg α)} {r r' : Sub α} {b : Nat} (hab : r.next ≤ b) (hn : r'.next = b) (hr : r.rest = [])
    (hr' : r'.rest = []) : owed log r = skipped log r.next b ++ owed log r' := by
  rw [owed, owed, hr, hr', hn, flat_split log _ _ hab]; rfl

theorem flat_eq_skipped {α} (log : List (Msg α)) (n : Nat) : (log.drop n).flatMap (·.diffs) = skipped log n log.length := by
  unfold skipped
  rw [List.take_of_length_le (by simp)]

theorem skipped_append {α} (log t : List (Msg α)) (a b : Nat) (hb : b ≤ log.length) : skipped (log ++ t) a b = skipped log a b := by
  unfold skipped
  congr 1
  by_cases hab : a ≤ b
  · rw [List.drop_append_of_le_length (by omega), List.take_append_of_le_length (by simp; omega)]
  · have : b - a = 0 := by omega
    simp [this]

/-- moving the cursor from `a` to `b` with the passed messages replayed on the replica keeps "replica + owed = contents" -/
theorem recv_advance {α} (log : List (Msg α)) (pre : List (Diff α)) (rep v : List α) (a b : Nat) (hab : a ≤ b)
    (h : applyAll (pre ++ (log.drop a).flatMap (·.diffs)) rep = some v) :
    ∃ mid, applyAll (pre ++ skipped log a b) rep = some mid ∧ applyAll ((log.drop b).flatMap (·.diffs)) mid = some v := by
  rw [flat_split log a b hab, ← List.append_assoc] at h
  exact applyAll_append_eq_some_iff.mp h

/-- `SOV.micro` as rules. `MStep o r p k it r' p'`: the live receiver `r` of world `o`, in phase `p`, performs one receive
    operation; the hook is told `k`; `poll_next` returns `it` (`none`: it goes on); afterwards the receiver is `r'`, in phase
    `p'`. One rule per leaf, except that `drain_end`, `lag_reset`, `lag_none` each cover the `Empty` and the `Closed` leaf.
    The answer of `tryRecv` is stated as the position of the cursor (`cursor_cases`). -/
inductive MStep {α} (o : OV α) (r : Sub α) : Phase α → RK → Option (Item α) → Sub α → Phase α → Prop
  -- `YieldBatch` (subscriber.rs:141-158): no receive operation
  | rest {d ds} : r.rest = d :: ds →
      MStep o r .idle .none (some (.one d)) { r with rest := ds, replica := r.replica.bind (applyAll [d]) } .idle
  | pending : r.rest = [] → o.log.length ≤ r.next → o.alive = true →
      MStep o r .idle .none (some .pending) { r with waiting := true } .idle
  | done : r.rest = [] → o.log.length ≤ r.next → o.alive = false →
      MStep o r .idle .closed (some .done) { r with waiting := false } .idle
  | one {m d ds} : r.rest = [] → o.log[r.next]? = some m → ¬ r.next + o.B < o.log.length → r.batched = false →
      m.diffs = d :: ds →
      MStep o r .idle .ok (some (.one d))
        { r with next := r.next + 1, rest := ds, waiting := false, replica := r.replica.bind (applyAll [d]) } .idle
  -- the `unreachable!` of the plain stream
  | empty_msg {m} : r.rest = [] → o.log[r.next]? = some m → ¬ r.next + o.B < o.log.length → r.batched = false →
      m.diffs = [] →
      MStep o r .idle .ok (some .panic) { r with next := r.next + 1 } .idle
  | drain_start {m} : r.rest = [] → o.log[r.next]? = some m → ¬ r.next + o.B < o.log.length → r.batched = true →
      MStep o r .idle .ok none { r with next := r.next + 1, waiting := false, replica := r.replica.bind (applyAll m.diffs) }
        (.drain m.diffs r.replica)
  | idle_lagged : r.rest = [] → r.next + o.B < o.log.length →
      MStep o r .idle .lagged none
        { r with next := o.log.length - o.B, waiting := false,
                 replica := r.replica.bind (applyAll (skipped o.log r.next (o.log.length - o.B))) } (.lag none)
  -- the `try_recv` loop of the batched stream (subscriber.rs:190-211)
  | drain_ok {acc shown m} : o.log[r.next]? = some m → ¬ r.next + o.B < o.log.length →
      MStep o r (.drain acc shown) .ok none { r with next := r.next + 1, replica := r.replica.bind (applyAll m.diffs) }
        (.drain (acc ++ m.diffs) shown)
  | drain_lagged {acc shown} : r.next + o.B < o.log.length →
      MStep o r (.drain acc shown) .lagged none
        { r with next := o.log.length - o.B,
                 replica := r.replica.bind (applyAll (skipped o.log r.next (o.log.length - o.B))) } (.lag none)
  | drain_end {acc shown k} : o.log.length ≤ r.next → k = (if o.alive then RK.empty else .closed) →
      MStep o r (.drain acc shown) k (some (.batch acc)) r .idle
  -- `handle_lag` (subscriber.rs:216-246); `lag_none`, vector alive: its `unreachable!`
  | lag_ok {msg m} : o.log[r.next]? = some m → ¬ r.next + o.B < o.log.length →
      MStep o r (.lag msg) .ok none { r with next := r.next + 1, replica := r.replica.bind (applyAll m.diffs) } (.lag (some m))
  | lag_lagged {msg} : r.next + o.B < o.log.length →
      MStep o r (.lag msg) .lagged none
        { r with next := o.log.length - o.B,
                 replica := r.replica.bind (applyAll (skipped o.log r.next (o.log.length - o.B))) } (.lag msg)
  | lag_reset {m k it} : o.log.length ≤ r.next → k = (if o.alive then RK.empty else .closed) → it = resetItem r.batched m.state →
      MStep o r (.lag (some m)) k (some it) { r with replica := r.replica.bind (applyAll [.reset m.state]) } .idle
  | lag_none {k it} : o.log.length ≤ r.next → k = (if o.alive then RK.empty else .closed) →
      it = (if o.alive then Item.panic else .done) → MStep o r (.lag none) k (some it) r .idle

theorem MStep.sound {α} {s : SOV α} {i : Nat} {r r' : Sub α} {p p' : Phase α} {k : RK} {it : Option (Item α)}
    (hs : s.ov.subs[i]? = some r) (ha : r.alive = true) (hp : s.ph i = p) (h : MStep s.ov r p k it r' p') :
    s.micro i = some (k, it, s.put i r' p') := by
  have hna : (!r.alive) = false := by simp [ha]
  simp only [SOV.micro, hs, hna, Bool.false_eq_true, if_false, hp]
  clear ha hna  -- or the `*` below rewrites with them
  cases h with
  | drain_end he hk => subst hk; cases hal : s.ov.alive <;> simp [tryRecv_end, he]
  | lag_reset he hk hit | lag_none he hk hit => subst hk hit; cases hal : s.ov.alive <;> simp [tryRecv_end, resetItem, he]
  | _ => simp [tryRecv_ok, tryRecv_lagged, tryRecv_end, *]

theorem MStep.total {α} (o : OV α) (r : Sub α) (p : Phase α) : ∃ k it r' p', MStep o r p k it r' p' := by
  have pos := cursor_cases o.B o.log r.next
  cases p with
  | idle =>
    cases hr : r.rest with
    | cons d ds => exact ⟨_, _, _, _, .rest hr⟩
    | nil =>
      rcases pos with ⟨m, hm, hw⟩ | hl | he
      · cases hb : r.batched with
        | true => exact ⟨_, _, _, _, .drain_start hr hm hw hb⟩
        | false =>
          cases hd : m.diffs with
          | nil => exact ⟨_, _, _, _, .empty_msg hr hm hw hb hd⟩
          | cons d ds => exact ⟨_, _, _, _, .one hr hm hw hb hd⟩
      · exact ⟨_, _, _, _, .idle_lagged hr hl⟩
      · cases hal : o.alive with
        | true => exact ⟨_, _, _, _, .pending hr he hal⟩
        | false => exact ⟨_, _, _, _, .done hr he hal⟩
  | drain acc shown =>
    rcases pos with ⟨m, hm, hw⟩ | hl | he
    · exact ⟨_, _, _, _, .drain_ok hm hw⟩
    · exact ⟨_, _, _, _, .drain_lagged hl⟩
    · exact ⟨_, _, _, _, .drain_end he rfl⟩
  | lag msg =>
    rcases pos with ⟨m, hm, hw⟩ | hl | he
    · exact ⟨_, _, _, _, .lag_ok hm hw⟩
    · exact ⟨_, _, _, _, .lag_lagged hl⟩
    · cases msg with
      | none => exact ⟨_, _, _, _, .lag_none he rfl rfl⟩
      | some m => exact ⟨_, _, _, _, .lag_reset he rfl rfl⟩

theorem SOV.micro_rule {α} {s s' : SOV α} {i : Nat} {k : RK} {it : Option (Item α)} (h : s.micro i = some (k, it, s')) :
    ∃ r r' p', s.ov.subs[i]? = some r ∧ r.alive = true ∧ s' = s.put i r' p' ∧ MStep s.ov r (s.ph i) k it r' p' := by
  cases hs : s.ov.subs[i]? with
  | none => simp [SOV.micro, hs] at h
  | some r =>
    cases ha : r.alive with
    | false => simp [SOV.micro, hs, ha] at h
    | true =>
      obtain ⟨k0, it0, r', p', hm⟩ := MStep.total s.ov r (s.ph i)
      rw [hm.sound hs ha rfl] at h
      cases h
      exact ⟨r, r', p', rfl, ha, rfl, hm⟩

theorem MStep.frame {α} {o : OV α} {r r' : Sub α} {p p' : Phase α} {k : RK} {it : Option (Item α)} (h : MStep o r p k it r' p')
    (hn : r.next ≤ o.log.length) :
    r'.alive = r.alive ∧ r.next ≤ r'.next ∧ r'.next ≤ o.log.length ∧ (it = none → r.next < r'.next) := by
  cases h with
  | rest | pending | done | drain_end | lag_reset | lag_none => exact ⟨rfl, Nat.le_refl _, hn, nofun⟩
  | one _ hm | empty_msg _ hm | drain_start _ hm | drain_ok hm | lag_ok hm =>
    exact ⟨rfl, Nat.le_succ _, (List.getElem?_eq_some_iff.mp hm).1, fun _ => Nat.lt_succ_self _⟩
  | idle_lagged _ hl | drain_lagged hl | lag_lagged hl =>
    exact ⟨rfl, Nat.le_sub_of_add_le (Nat.le_of_lt hl), Nat.sub_le _ _, fun _ => Nat.lt_sub_of_add_lt hl⟩

theorem MStep.of_some {α} {o : OV α} {r r' : Sub α} {p p' : Phase α} {k : RK} {it : Item α} (h : MStep o r p k (some it) r' p') :
    p' = .idle := by
  cases h <;> rfl

theorem put_put {α} (s : SOV α) (i : Nat) (a b : Sub α) (p q : Phase α) : (s.put i a p).put i b q = s.put i b q := by
  simp only [SOV.put, List.set_set]
  congr 1
  funext j
  simp only [updPh]
  split <;> rfl

@[simp]
theorem put_log {α} (s : SOV α) (i : Nat) (a : Sub α) (p : Phase α) : (s.put i a p).ov.log = s.ov.log := rfl
@[simp]
theorem put_B {α} (s : SOV α) (i : Nat) (a : Sub α) (p : Phase α) : (s.put i a p).ov.B = s.ov.B := rfl
@[simp]
theorem put_alive {α} (s : SOV α) (i : Nat) (a : Sub α) (p : Phase α) : (s.put i a p).ov.alive = s.ov.alive := rfl

@[simp]
theorem put_ph_self {α} {s : SOV α} {i : Nat} {a : Sub α} {p : Phase α} : (s.put i a p).ph i = p := by
  simp [SOV.put, updPh]

theorem put_sub_self {α} (s : SOV α) {i : Nat} {r : Sub α} (a : Sub α) (p : Phase α) (hs : s.ov.subs[i]? = some r) :
    (s.put i a p).ov.subs[i]? = some a := getElem?_set_self_of_getElem? a hs

theorem ph_put_idle {α} (s : SOV α) (i : Nat) (a : Sub α) (hp : s.ph i = .idle) : (s.put i a .idle).ph = s.ph := by
  funext j
  simp only [SOV.put, updPh]
  split
  · rename_i h; subst h; exact hp.symm
  · rfl

theorem plain_of_rest {α} {r : Sub α} {d : Diff α} {ds : List (Diff α)} (g : r.batched = true → r.rest = [])
    (hr : r.rest = d :: ds) : r.batched = false := by
  cases hb : r.batched with
  | false => rfl
  | true => simp [g hb] at hr

/-- what is known about a receiver in phase `p` -/
def PhOK {α} (p : Phase α) (r : Sub α) (log : List (Msg α)) (vals : List α) : Prop :=
  match p with
  | .idle => True
  | .drain acc shown =>
    r.batched = true ∧ acc ≠ [] ∧ (∃ sh rep, shown = some sh ∧ r.replica = some rep ∧ applyAll acc sh = some rep) ∧
      -- the batch consists of WHOLE messages: everything between the cursor position at which the poll started and now
      ∃ a, a ≤ r.next ∧ acc = skipped log a r.next
  | .lag none => r.rest = [] ∧ r.next < log.length
  | .lag (some m) => r.rest = [] ∧ (r.next = log.length → m.state = vals)

structure StInv {α} (s : SOV α) : Prop where
  base : VInv s.ov
  phase : ∀ (i : Nat) (r : Sub α), s.ov.subs[i]? = some r → r.alive = true → PhOK (s.ph i) r s.ov.log s.ov.vals
  -- a receiver subscribed later starts outside `poll_next`
  fresh : ∀ i, s.ov.subs.length ≤ i → s.ph i = .idle

theorem sinv_init {α} (c : Nat) (hc : c ≤ 2 ^ 64) : StInv (SOV.init (α := α) c) :=
  ⟨vinv_new c hc, by intro i r h; simp [SOV.init, OV.new] at h, by intro i _; rfl⟩

theorem sinv_put {α} (s : SOV α) (hi : StInv s) (i : Nat) (r r' : Sub α) (p : Phase α) (hs : s.ov.subs[i]? = some r)
    (ha : r.alive = true) (ha' : r'.alive = true) (hnext_le : r.next ≤ r'.next) (hin_log : r'.next ≤ s.ov.log.length)
    (hnorest : r'.batched = true → r'.rest = [])
    (hrep : ∃ rep, r'.replica = some rep ∧ applyAll (owed s.ov.log r') rep = some s.ov.vals)
    (hp : PhOK p r' s.ov.log s.ov.vals) : StInv (s.put i r' p) := by
  refine ⟨vinv_set_sub s.ov hi.base i r r' hs ha ha' hnext_le hin_log hnorest hrep, ?phase, ?fresh⟩
  case phase =>
    intro j rj hj haj
    rcases getElem?_set_cases hj with ⟨rfl, rfl⟩ | ⟨hji, hj⟩
    · simpa [SOV.put, updPh] using hp
    · simpa [SOV.put, updPh, hji] using hi.phase j rj hj haj
  case fresh =>
    intro j hj
    simp only [SOV.put, List.length_set] at hj
    have hji : ¬ j = i := fun e => by
      have := (List.getElem?_eq_some_iff.mp hs).1
      omega
    simpa [SOV.put, updPh, hji] using hi.fresh j hj

/-- `r` hands `X`, a prefix of what it is owed, on to its replica and goes on as `r'` in phase `p` -/
theorem sinv_pass {α} {s : SOV α} {i : Nat} {r r' : Sub α} {p : Phase α} (hi : StInv s) (hs : s.ov.subs[i]? = some r)
    (ha : r.alive = true) (X : List (Diff α)) (halive : r'.alive = r.alive) (hnext_le : r.next ≤ r'.next)
    (hin_log : r'.next ≤ s.ov.log.length) (hnorest : r'.batched = true → r'.rest = [])
    (hreplica : r'.replica = r.replica.bind (applyAll X)) (how : owed s.ov.log r = X ++ owed s.ov.log r')
    (hp : ∀ rep mid, r.replica = some rep → applyAll X rep = some mid → r'.replica = some mid → PhOK p r' s.ov.log s.ov.vals) :
    StInv (s.put i r' p) := by
  obtain ⟨-, -, rep, hrep, hreplay⟩ := hi.base.subs i r hs ha
  obtain ⟨mid, hpass, hbind, hreplay'⟩ := owed_pass X hrep hreplay how
  exact sinv_put s hi i r r' p hs ha (halive.trans ha) hnext_le hin_log hnorest ⟨mid, hreplica.trans hbind, hreplay'⟩
    (hp rep mid hrep hpass (hreplica.trans hbind))

/-- **Every receive operation keeps the invariant** — whatever happened since the previous one. -/
theorem sinv_micro {α} (s s' : SOV α) (i : Nat) (k : RK) (it : Option (Item α)) (hi : StInv s)
    (h : s.micro i = some (k, it, s')) : StInv s' := by
  obtain ⟨r, r', p', hs, ha, rfl, hm⟩ := SOV.micro_rule h
  obtain ⟨hnorest, hin_log, rep, hreplica, -⟩ := hi.base.subs i r hs ha
  have hph := hi.phase i r hs ha
  have hne := hi.base.no_empty
  have hB := hi.base.window
  obtain ⟨halive, hnext_le, hin_log', -⟩ := hm.frame hin_log
  generalize s.ph i = p at hm hph
  cases hm with
  -- returns without a `Reset`: `PhOK .idle` asks nothing
  | @rest d ds hr =>
    exact sinv_pass hi hs ha [d] halive hnext_le hin_log' (fun hb => by simp [plain_of_rest hnorest hr] at hb) rfl (by simp [owed, hr])
      fun _ _ _ _ _ => trivial
  | pending | done | drain_end =>
    exact sinv_pass hi hs ha [] halive hnext_le hin_log' hnorest (bind_applyAll_nil _).symm rfl fun _ _ _ _ _ => trivial
  | @one m d ds hr hm hw hb hd =>
    exact sinv_pass hi hs ha [d] halive hnext_le hin_log' (fun hb' => by simp [hb] at hb') rfl
      (owed_ok_part hr hm rfl hd) fun _ _ _ _ _ => trivial
  | @empty_msg m hr hm hw hb hd => exact absurd hd (hne m (List.mem_of_getElem? hm))
  -- `Ok m`, drain loop: the batch grows by the whole message
  | @drain_start m hr hm hw hb =>
    exact sinv_pass hi hs ha m.diffs halive hnext_le hin_log' (fun _ => hr) rfl
      (owed_ok hm rfl hr hr) fun rep mid hrep hpass hrep' =>
        ⟨hb, hne m (List.mem_of_getElem? hm), ⟨rep, mid, hrep, hrep', hpass⟩, r.next, Nat.le_succ _, (skipped_one hm).symm⟩
  | @drain_ok acc shown m hm hw =>
    obtain ⟨hb, hacc, ⟨sh, rep0, hsh, hrep0, happ⟩, a0, ha0, hwhole⟩ := hph
    exact sinv_pass hi hs ha m.diffs halive hnext_le hin_log' (fun _ => hnorest hb) rfl
      (owed_ok hm rfl (hnorest hb) (hnorest hb)) fun rep mid hrep hpass hrep' =>
        ⟨hb, by simp [hacc], ⟨sh, mid, hsh, hrep', by rw [applyAll_append, happ, Option.some.inj (hrep0.symm.trans hrep)]; exact hpass⟩,
          a0, Nat.le_succ_of_le ha0, by rw [hwhole, ← skipped_one hm, skipped_trans _ _ _ _ ha0 (Nat.le_succ _)]⟩
  -- `Ok m`, `handle_lag`: at the end `m` is the newest message, which carries the contents (`VInv.last`)
  | @lag_ok msg m hm hw =>
    have hr : r.rest = [] := by cases msg <;> exact hph.1
    have hlt := (List.getElem?_eq_some_iff.mp hm).1
    exact sinv_pass hi hs ha m.diffs halive hnext_le hin_log' (fun _ => hr) rfl
      (owed_ok hm rfl hr hr) fun _ _ _ _ _ =>
        ⟨hr, fun hend => hi.base.last_state hs ha hlt (getLast?_of_getElem? hm hend)⟩
  -- `Lagged`: the cursor lands `B > 0` messages before the end
  | idle_lagged hr hl =>
    exact sinv_pass hi hs ha _ halive hnext_le hin_log' (fun _ => hr) rfl
      (owed_jump hnext_le rfl hr hr) fun _ _ _ _ _ => ⟨hr, Nat.sub_lt (Nat.zero_lt_of_lt hl) hB⟩
  | drain_lagged hl =>
    exact sinv_pass hi hs ha _ halive hnext_le hin_log' (fun _ => hnorest hph.1) rfl
      (owed_jump hnext_le rfl (hnorest hph.1) (hnorest hph.1)) fun _ _ _ _ _ => ⟨hnorest hph.1, Nat.sub_lt (Nat.zero_lt_of_lt hl) hB⟩
  | @lag_lagged msg hl =>
    have hr : r.rest = [] := by cases msg <;> exact hph.1
    exact sinv_pass hi hs ha _ halive hnext_le hin_log' (fun _ => hr) rfl
      (owed_jump hnext_le rfl hr hr) fun _ _ _ _ _ => by
        cases msg with
        | none => exact ⟨hr, Nat.sub_lt (Nat.zero_lt_of_lt hl) hB⟩
        | some m0 => exact ⟨hr, fun hend => absurd hend (Nat.ne_of_lt (Nat.sub_lt (Nat.zero_lt_of_lt hl) hB))⟩
  -- `handle_lag` returns at the end: `m.state` is the contents; with nothing drained the cursor is not at the end
  | @lag_reset m _ _ he =>
    have hn : r.next = s.ov.log.length := Nat.le_antisymm hin_log he
    exact sinv_put s hi i r _ _ hs ha ha (Nat.le_refl _) hin_log (fun _ => hph.1)
      ⟨m.state, by rw [hreplica]; rfl, by simp [owed, hph.1, hn, hph.2 hn]⟩ trivial
  | lag_none he => exact absurd hph.2 (Nat.not_lt.mpr he)

/-- `s'` comes after `s` by events other than polls: receivers keep cursor, remainder, replica and flavour (and do not
    come back to life); the log only grows; and for a receiver alive in `s'` either nothing was published and the
    contents are the same, or the log is strictly longer. -/
structure Ext {α} (s s' : OV α) : Prop where
  pre : ∃ t, s'.log = s.log ++ t
  len : s.log.length ≤ s'.log.length
  slen : s.subs.length ≤ s'.subs.length
  subs : ∀ (j : Nat) (r : Sub α), s.subs[j]? = some r →
    ∃ r', s'.subs[j]? = some r' ∧ r'.next = r.next ∧ r'.rest = r.rest ∧ r'.replica = r.replica ∧ r'.batched = r.batched ∧
      (r'.alive = true → r.alive = true)
  same : ∀ (j : Nat) (r' : Sub α), j < s.subs.length → s'.subs[j]? = some r' → r'.alive = true →
    (s'.log = s.log ∧ s'.vals = s.vals) ∨ s.log.length < s'.log.length

theorem ext_refl {α} (s : OV α) : Ext s s :=
  ⟨⟨[], by simp⟩, Nat.le_refl _, Nat.le_refl _, fun j r h => ⟨r, h, rfl, rfl, rfl, rfl, id⟩, fun _ _ _ _ _ => Or.inl ⟨rfl, rfl⟩⟩

theorem ext_trans {α} {a b c : OV α} (h1 : Ext a b) (h2 : Ext b c) : Ext a c := by
  refine ⟨(by obtain ⟨t1, e1⟩ := h1.pre; obtain ⟨t2, e2⟩ := h2.pre; exact ⟨t1 ++ t2, by rw [e2, e1, List.append_assoc]⟩), Nat.le_trans h1.len h2.len, Nat.le_trans h1.slen h2.slen, ?_, ?_⟩
  · intro j r hj
    obtain ⟨r1, e1, f1, f2, f3, f4, f5⟩ := h1.subs j r hj
    obtain ⟨r2, e2, g1, g2, g3, g4, g5⟩ := h2.subs j r1 e1
    exact ⟨r2, e2, g1.trans f1, g2.trans f2, g3.trans f3, g4.trans f4, fun h => f5 (g5 h)⟩
  · intro j r2 hj e2 ha2
    have hjb : j < b.subs.length := Nat.lt_of_lt_of_le hj h1.slen
    have hb : b.subs[j]? = some b.subs[j] := by simp [hjb]
    obtain ⟨r2', e2', _, _, _, _, g5⟩ := h2.subs j _ hb
    obtain rfl : r2' = r2 := Option.some.inj (e2'.symm.trans e2)
    have hab := h1.same j _ hj hb (g5 ha2)
    have hbc := h2.same j r2' hjb e2 ha2
    rcases hab with ⟨x1, x2⟩ | x
    · rcases hbc with ⟨y1, y2⟩ | y
      · exact .inl ⟨y1.trans x1, y2.trans x2⟩
      · exact .inr (x1 ▸ y)
    · exact .inr (Nat.lt_of_lt_of_le x h2.len)

theorem ext_of_grow {α} {s s' : OV α} (hg : Grow s s') : Ext s s' := by
  have hpre : ∃ t, s'.log = s.log ++ t := by
    rcases hg.log_grows with ⟨h, _⟩ | ⟨ds, many, h, _⟩
    · exact ⟨[], by simp [h]⟩
    · exact ⟨_, h⟩
  refine ⟨hpre, by obtain ⟨t, h⟩ := hpre; simp [h], hg.slen, ?_, ?_⟩
  · intro j r hj
    have hjl : j < s.subs.length := (List.getElem?_eq_some_iff.mp hj).1
    have hjl' : j < s'.subs.length := Nat.lt_of_lt_of_le hjl hg.slen
    have hj' : s'.subs[j]? = some s'.subs[j] := by simp [hjl']
    rcases hg.receivers j _ hj' with ⟨r0, hr0, hal, hb, hn, hrest, hrep⟩ | ⟨h, _⟩
    · rw [hj] at hr0; cases hr0
      exact ⟨_, hj', hn, hrest, hrep, hb, hal⟩
    · omega
  · intro j r' _ hj ha
    rcases hg.log_grows with ⟨h, hv⟩ | ⟨ds, many, h, _⟩
    · exact Or.inl ⟨h, hv (rx_of_alive s' j r' hj ha)⟩
    · right; simp [h]

/-- every event other than a poll extends the world -/
theorem ext_vstep {α} (s : OV α) (e : VEv α) (hi : VInv s) (hne : ∀ i, e ≠ .poll i) : Ext s (s.vstep e) :=
  vstep_ind (P := Ext s) (fun _ _ _ hg h => ext_trans h (ext_of_grow hg)) s e hi (ext_refl s) fun i _ he _ => absurd he (hne i)

/-- an event between two receive operations. Polls are taken apart into `SOV.micro` steps; a stream that is inside
    `poll_next` is mutably borrowed, so it cannot be dropped. -/
def SOV.ev {α} (s : SOV α) (e : VEv α) : SOV α :=
  match e with
  | .poll _ => s
  | .dropSub i => (match s.ph i with | .idle => { s with ov := s.ov.dropSub i } | _ => s)
  | e => { s with ov := s.ov.vstep e }

inductive SEv (α : Type) where
  | ev (e : VEv α)
  | micro (i : Nat)

def SOV.step {α} (s : SOV α) : SEv α → SOV α
  | .ev e => s.ev e
  | .micro i => match s.micro i with | some (_, _, s') => s' | none => s

theorem phok_ext {α} (p : Phase α) (r r' : Sub α) (s s' : OV α) (h : PhOK p r s.log s.vals)
    (hpre : ∃ t, s'.log = s.log ++ t) (hlen : s.log.length ≤ s'.log.length) (hn : r.next ≤ s.log.length)
    (hsame : (s'.log = s.log ∧ s'.vals = s.vals) ∨ s.log.length < s'.log.length)
    (hnext : r'.next = r.next) (hrest : r'.rest = r.rest) (hreplica : r'.replica = r.replica) (hbatched : r'.batched = r.batched) :
    PhOK p r' s'.log s'.vals := by
  cases p with
  | idle => trivial
  | drain acc shown =>
    obtain ⟨hb, hacc, hrep, a, ha, hw⟩ := h
    obtain ⟨t, ht⟩ := hpre
    simp only [PhOK]
    rw [hnext, hreplica, hbatched]
    exact ⟨hb, hacc, hrep, a, ha, by rw [ht, skipped_append _ _ _ _ hn]; exact hw⟩
  | lag msg =>
    cases msg with
    | none =>
      obtain ⟨hr, hlt⟩ := h
      simp only [PhOK]
      rw [hnext, hrest]; exact ⟨hr, Nat.lt_of_lt_of_le hlt hlen⟩
    | some m =>
      obtain ⟨hr, hend⟩ := h
      simp only [PhOK]
      rw [hnext, hrest]
      -- log did not grow: same contents; grew: the cursor is before the end
      refine ⟨hr, fun he => ?_⟩
      rcases hsame with ⟨e1, e2⟩ | hlt
      · rw [e2]; exact hend (by rw [← e1]; exact he)
      · omega

theorem sinv_of_ext {α} (s : SOV α) (ov' : OV α) (hi : StInv s) (hv : VInv ov') (hx : Ext s.ov ov') : StInv { s with ov := ov' } := by
  refine ⟨hv, ?phase, ?fresh⟩
  case phase =>
    intro j r' hj ha'
    by_cases hjl : j < s.ov.subs.length
    · have hb : s.ov.subs[j]? = some s.ov.subs[j] := by simp [hjl]
      obtain ⟨r2, e2, hnext, hrest, hreplica, hbatched, halive⟩ := hx.subs j _ hb
      obtain rfl : r2 = r' := Option.some.inj (e2.symm.trans hj)
      have ha := halive ha'
      have hph := hi.phase j _ hb ha
      have hin_log := (hi.base.subs j _ hb ha).2.1
      exact phok_ext _ _ _ s.ov ov' hph hx.pre hx.len hin_log (hx.same j r2 hjl hj ha') hnext hrest hreplica hbatched
    · have := hi.fresh j (by omega)
      show PhOK (s.ph j) r' ov'.log ov'.vals
      rw [this]; trivial
  case fresh =>
    intro j hj
    exact hi.fresh j (Nat.le_trans hx.slen hj)

theorem sinv_ev {α} (s : SOV α) (e : VEv α) (hi : StInv s) : StInv (s.ev e) := by
  have key : ∀ e : VEv α, (∀ i, e ≠ .poll i) → StInv { s with ov := s.ov.vstep e } :=
    fun e hne => sinv_of_ext s _ hi (vinv_vstep s.ov e hi.base) (ext_vstep s.ov e hi.base hne)
  cases e with
  | poll i => exact hi
  | dropSub i =>
    simp only [SOV.ev]
    cases s.ph i with
    | idle => exact key (.dropSub i) (by intro j h; cases h)
    | _ => exact hi
  | _ => exact key _ (by intro j h; cases h)

theorem sinv_step {α} (s : SOV α) (e : SEv α) (hi : StInv s) : StInv (s.step e) := by
  cases e with
  | ev e => exact sinv_ev s e hi
  | micro i =>
    simp only [SOV.step]
    cases h : s.micro i with
    | none => exact hi
    | some p => obtain ⟨k, it, s'⟩ := p; exact sinv_micro s s' i k it hi h

/-- … hence along every interleaving, from any capacity -/
theorem sinv_run {α} (c : Nat) (hc : c ≤ 2 ^ 64) (evs : List (SEv α)) : StInv (evs.foldl SOV.step (SOV.init c)) :=
  foldl_preserves StInv SOV.step sinv_step evs _ (sinv_init c hc)

end EV
