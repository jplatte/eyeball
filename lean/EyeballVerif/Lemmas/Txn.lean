/-
  What a mutator called on an open transaction does (`OV.txnOp`).
-/
import EyeballVerif.Model.OVec
namespace EV

/-- everything except the `txn` field -/
def OV.outside {α} (s : OV α) : List α × Bool × Nat × List (Msg α) × List (Sub α) :=
  (s.vals, s.alive, s.B, s.log, s.subs)

/-- `clear` on an open transaction (transaction.rs:81-88): the batch recorded so far is discarded -/
theorem txnOp_clear {α} (s : OV α) (t : Txn α) (ht : s.txn = some t) :
    s.txnOp .clear = some ({ s with txn := some { working := [], batch := if s.rxCount ≠ 0 then [.clear] else [] } }, .unit) := by
  simp only [OV.txnOp, ht]

theorem txnOp_exec {α} (s : OV α) (t : Txn α) (o : VOp α) (ht : s.txn = some t) (hc : o ≠ .clear) :
    s.txnOp o = (o.exec t.working).map fun res =>
      ({ s with txn := some { working := res.vals,
                              batch := if s.rxCount ≠ 0 then t.batch ++ res.diff.toList else t.batch } }, res.ret) := by
  -- `match o with | .clear => _ | o => _` reduces only on a constructor
  have hgen : s.txnOp o = match o.exec t.working with
      | none => none
      | some r => some ({ s with txn := some { working := r.vals, batch :=
          match r.diff with
          | some d => if s.rxCount ≠ 0 then t.batch ++ [d] else t.batch
          | none => t.batch } }, r.ret) := by
    simp only [OV.txnOp, ht]; cases o <;> first | rfl | exact absurd rfl hc
  rw [hgen]
  cases o.exec t.working with
  | none => rfl
  | some res => cases hd : res.diff <;> simp [hd]

theorem txnOp_spec {α} (s s' : OV α) (o : VOp α) (r : Ret α) (h : s.txnOp o = some (s', r)) :
    ∃ t t', s.txn = some t ∧ s' = { s with txn := some t' } ∧
      (t'.working = [] ∧ t'.batch = (if s.rxCount ≠ 0 then [.clear] else []) ∨
       ∃ res, o.exec t.working = some res ∧ t'.working = res.vals ∧
         t'.batch = (if s.rxCount ≠ 0 then t.batch ++ res.diff.toList else t.batch)) := by
  cases ht : s.txn with
  | none => simp [OV.txnOp, ht] at h
  | some t =>
    by_cases hc : o = .clear
    · subst hc
      rw [txnOp_clear s t ht] at h
      cases h
      exact ⟨t, _, rfl, rfl, Or.inl ⟨rfl, rfl⟩⟩
    · rw [txnOp_exec s t o ht hc] at h
      cases he : o.exec t.working with
      | none => simp [he] at h
      | some res =>
        simp only [he, Option.map_some, Option.some.injEq, Prod.mk.injEq] at h
        exact ⟨t, _, rfl, h.1.symm, Or.inr ⟨res, he, rfl, rfl⟩⟩

theorem txnOp_outside {α} (s s' : OV α) (o : VOp α) (r : Ret α) (h : s.txnOp o = some (s', r)) : s'.outside = s.outside := by
  obtain ⟨t, t', _, rfl, _⟩ := txnOp_spec s s' o r h
  rfl

end EV
