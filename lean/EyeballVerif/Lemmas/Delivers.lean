/-
  What one poll of a subscriber stream delivers, in terms of what the log still owes the receiver.
-/
import EyeballVerif.Lemmas.ApplyAll
import EyeballVerif.Lemmas.Recv
namespace EV

/-- everything still owed to a receiver: the rest of a partly delivered batch, then every message from its
    cursor on -/
def owed {α} (log : List (Msg α)) (r : Sub α) : List (Diff α) := r.rest ++ (log.drop r.next).flatMap (·.diffs)

theorem owed_append {α} (log : List (Msg α)) (m : Msg α) (r : Sub α) (h : r.next ≤ log.length) :
    owed (log ++ [m]) r = owed log r ++ m.diffs := by
  simp [owed, List.drop_append_of_le_length h, List.flatMap_append, List.append_assoc]

theorem owed_congr {α} (log : List (Msg α)) (r r' : Sub α) (hn : r'.next = r.next) (hr : r'.rest = r.rest) :
    owed log r' = owed log r := by simp only [owed, hn, hr]

theorem owed_caught_up {α} (log : List (Msg α)) (r : Sub α) (hr : r.rest = []) (hn : log.length ≤ r.next) : owed log r = [] := by
  simp [owed, hr, List.drop_of_length_le hn]

theorem owed_ne_nil {α} {log : List (Msg α)} {r : Sub α} (hne : NoEmptyMsg log) (hlt : r.next < log.length) : owed log r ≠ [] :=
  fun h => flat_ne_nil hne hlt (List.append_eq_nil_iff.mp h).2

/-- message `m` received with no remainder left: `X` of its diffs are handed on, the rest is kept -/
theorem owed_ok_part {α} {log : List (Msg α)} {r r' : Sub α} {m : Msg α} {X : List (Diff α)} (hr : r.rest = [])
    (hm : log[r.next]? = some m) (hn : r'.next = r.next + 1) (hd : m.diffs = X ++ r'.rest) : owed log r = X ++ owed log r' := by
  rw [owed, owed, hr, hn, flatMap_drop_of_getElem? _ hm, hd, List.nil_append, List.append_assoc]

theorem owed_ok {α} {log : List (Msg α)} {r r' : Sub α} {m : Msg α} (hm : log[r.next]? = some m) (hn : r'.next = r.next + 1)
    (hr : r.rest = []) (hr' : r'.rest = []) : owed log r = m.diffs ++ owed log r' :=
  owed_ok_part hr hm hn (by rw [hr', List.append_nil])

/-- handing `X`, a prefix of what is owed, on to the replica -/
theorem owed_pass {α} {log : List (Msg α)} {r r' : Sub α} {rep v : List α} (X : List (Diff α)) (hrep : r.replica = some rep)
    (hreplay : applyAll (owed log r) rep = some v) (how : owed log r = X ++ owed log r') :
    ∃ mid, applyAll X rep = some mid ∧ r.replica.bind (applyAll X) = some mid ∧ applyAll (owed log r') mid = some v := by
  rw [how] at hreplay
  obtain ⟨mid, e1, e2⟩ := applyAll_append_eq_some_iff.mp hreplay
  exact ⟨mid, e1, by simp [hrep, e1], e2⟩

/-- **What a poll delivers**, in terms of what the log owes the receiver: nothing (nothing was owed); or the first owed diff
    (plain) resp. everything owed (batched); or, only when lagged, a `Reset` to the newest recorded state. -/
theorem PStep.delivers {α} {b : Bool} {B : Nat} {log : List (Msg α)} {c : Bool} {r : Sub α} {it : Item α} {r' : Sub α}
    (h : PStep b B log c r it r') (hB : 0 < B) (hne : NoEmptyMsg log) (hr : b = true → r.rest = []) :
    (b = true → r'.rest = []) ∧
    ((it = .pending ∧ c = false ∨ it = .done ∧ c = true) ∧ owed log r = [] ∧ owed log r' = [] ∨
     (∃ ds, (it = .batch ds ∨ ∃ d, it = .one d ∧ ds = [d]) ∧ ¬ (r.rest = [] ∧ r.next + B < log.length) ∧
        owed log r = ds ++ owed log r') ∨
     (∃ m, it = resetItem b m.state ∧ r.rest = [] ∧ r.next + B < log.length ∧ log.getLast? = some m ∧ owed log r' = [])) := by
  have idle : (b = false → r.rest = []) → r.rest = [] := fun hi => (Bool.eq_false_or_eq_true b).elim hr hi
  cases h with
  | rest d ds hb hr' =>
    exact ⟨fun h => (Bool.false_ne_true (hb.symm.trans h)).elim, Or.inr (Or.inl ⟨[d], Or.inr ⟨d, rfl, rfl⟩, by simp [hr'], by simp [owed, hr']⟩)⟩
  | pending hi hn hc =>
    exact ⟨fun h => hr h, Or.inl ⟨Or.inl ⟨rfl, hc⟩, owed_caught_up log r (idle hi) hn, owed_caught_up log _ (idle hi) hn⟩⟩
  | done hi hn hc =>
    exact ⟨fun h => hr h, Or.inl ⟨Or.inr ⟨rfl, hc⟩, owed_caught_up log r (idle hi) hn, owed_caught_up log _ (idle hi) hn⟩⟩
  | one m d ds hb hr' hl hm hd =>
    exact ⟨fun h => (Bool.false_ne_true (hb.symm.trans h)).elim, Or.inr (Or.inl ⟨[d], Or.inr ⟨d, rfl, rfl⟩, fun h => hl h.2,
      owed_ok_part hr' hm rfl hd⟩)⟩
  | empty_msg m _ _ _ hm hd => exact absurd hd (hne m (List.mem_of_getElem? hm))
  | batch ds hb hl hlt hds =>
    exact ⟨fun _ => hr hb, Or.inr (Or.inl ⟨ds, Or.inl rfl, fun h => hl h.2, by simp [owed, hr hb, hds]⟩)⟩
  | reset m it hi _ hl hm hit =>
    exact ⟨fun h => hr h, Or.inr (Or.inr ⟨m, hit, idle hi, hl, hm, owed_caught_up log _ (idle hi) (Nat.le_refl _)⟩)⟩
  | lag0_done _ h0 _ _ => omega
  | lag0_panic _ h0 _ _ => omega

end EV
