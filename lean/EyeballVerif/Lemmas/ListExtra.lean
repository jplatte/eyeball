/-
  List lemmas core lacks in the form needed, mainly the window lemmas: how `take b` / `drop b` move past an insert, an
  `eraseIdx`, a `dropLast`. `_of_le`: `b ≤ i`; `_of_ge`: `i ≤ b`, where an insert is stated for the cut `b + 1` (it pushes an
  item over the cut) and an erase for the cut `b` (it pulls one in).
  Names throughout `Lemmas/`: a lemma that consumes `h : X` is `X.foo`, so that `h.foo` works; one that concludes `X` is `x_foo`.
-/
namespace EV

theorem map_eraseIdx {α β} (f : α → β) (l : List α) (i : Nat) :
    (l.map f).eraseIdx i = (l.eraseIdx i).map f := by
  simp [List.eraseIdx_eq_take_drop_succ, List.map_take, List.map_drop]

theorem length_insert {α} {v : List α} (x : α) {i : Nat} (hi : i ≤ v.length) :
    (v.take i ++ x :: v.drop i).length = v.length + 1 := by
  rw [List.length_append, List.length_take, List.length_cons, List.length_drop, Nat.min_eq_left hi, ← Nat.add_assoc,
    Nat.add_sub_cancel' hi]

theorem take_insert_of_le {α} (v : List α) (x : α) {b i : Nat} (h : b ≤ i) (hi : i ≤ v.length) :
    (v.take i ++ x :: v.drop i).take b = v.take b := by
  rw [List.take_append_of_le_length (by rw [List.length_take]; omega), List.take_take, Nat.min_eq_left h]

theorem take_insert_of_ge {α} (v : List α) (x : α) {b i : Nat} (h : i ≤ b) (hi : i ≤ v.length) :
    (v.take i ++ x :: v.drop i).take (b + 1) = (v.take b).take i ++ x :: (v.take b).drop i := by
  have e : b + 1 - i = (b - i) + 1 := by omega
  rw [List.take_append, List.length_take, Nat.min_eq_left hi, List.take_take, Nat.min_eq_right (Nat.le_succ_of_le h), e,
    List.take_succ_cons, List.take_take, Nat.min_eq_left h, List.drop_take]

theorem take_eraseIdx_of_le {α} (v : List α) {b i : Nat} (h : b ≤ i) (hi : i < v.length) :
    (v.eraseIdx i).take b = v.take b := by
  rw [List.eraseIdx_eq_take_drop_succ, List.take_append_of_le_length (by rw [List.length_take]; omega), List.take_take,
    Nat.min_eq_left h]

theorem take_eraseIdx_of_ge {α} (v : List α) {b i : Nat} (h : i ≤ b) (hi : i < v.length) :
    (v.eraseIdx i).take b = (v.take (b + 1)).eraseIdx i := by
  rw [List.eraseIdx_eq_take_drop_succ, List.eraseIdx_eq_take_drop_succ, List.take_append, List.length_take,
    Nat.min_eq_left (Nat.le_of_lt hi), List.take_take, Nat.min_eq_right h, List.take_take, Nat.min_eq_left (Nat.le_succ_of_le h),
    List.drop_take, Nat.add_sub_add_right]

theorem dropLast_take_succ {α} (v : List α) {b : Nat} (h : b + 1 ≤ v.length) : (v.take (b + 1)).dropLast = v.take b := by
  rw [List.dropLast_eq_take, List.length_take, Nat.min_eq_left h, List.take_take, Nat.add_sub_cancel, Nat.min_eq_left (Nat.le_succ b)]

theorem take_dropLast_of_lt {α} (v : List α) {b : Nat} (h : b < v.length) : v.dropLast.take b = v.take b := by
  rw [List.dropLast_eq_take, List.take_take, Nat.min_eq_left (by omega)]

theorem drop_insert_of_le {α} (v : List α) (x : α) {b i : Nat} (h : b ≤ i) (hi : i ≤ v.length) :
    (v.take i ++ x :: v.drop i).drop b = (v.drop b).take (i - b) ++ x :: (v.drop b).drop (i - b) := by
  rw [List.drop_append, List.drop_take, List.length_take, Nat.min_eq_left hi, Nat.sub_eq_zero_of_le h, List.drop_zero,
    List.drop_drop, Nat.add_sub_cancel' h]

theorem drop_insert_of_ge {α} (v : List α) (x : α) {b i : Nat} (h : i ≤ b) (hi : i ≤ v.length) :
    (v.take i ++ x :: v.drop i).drop (b + 1) = v.drop b := by
  rw [List.drop_append, List.length_take, Nat.min_eq_left hi, List.drop_of_length_le (by rw [List.length_take]; omega),
    List.nil_append, Nat.succ_sub h, List.drop_succ_cons, List.drop_drop, Nat.add_sub_cancel' h]

theorem drop_eraseIdx_of_le {α} (v : List α) {b i : Nat} (h : b ≤ i) (hi : i < v.length) :
    (v.eraseIdx i).drop b = (v.drop b).eraseIdx (i - b) := by
  rw [List.eraseIdx_eq_take_drop_succ, List.eraseIdx_eq_take_drop_succ, List.drop_append, List.drop_take, List.drop_drop,
    List.drop_drop, List.length_take]
  congr 2; omega

theorem drop_eraseIdx_of_ge {α} (v : List α) {b i : Nat} (h : i ≤ b) (hi : i < v.length) :
    (v.eraseIdx i).drop b = v.drop (b + 1) := by
  rw [List.eraseIdx_eq_take_drop_succ, List.drop_append, List.length_take, List.drop_of_length_le (by rw [List.length_take]; omega),
    List.nil_append, List.drop_drop]
  congr 1; omega

theorem drop_dropLast {α} (v : List α) (b : Nat) : v.dropLast.drop b = (v.drop b).dropLast := by
  rw [List.dropLast_eq_take, List.dropLast_eq_take, List.drop_take, List.length_drop]
  congr 1; omega

theorem sub_lt_length_drop {α} {v : List α} {c i : Nat} (hc : c ≤ i) (hi : i < v.length) : i - c < (v.drop c).length := by
  rw [List.length_drop]; exact Nat.sub_lt_sub_right hc hi

theorem sub_le_length_drop {α} {v : List α} (c : Nat) {i : Nat} (hi : i ≤ v.length) : i - c ≤ (v.drop c).length := by
  rw [List.length_drop]; exact Nat.sub_le_sub_right hi c

theorem isEmpty_drop_of_lt {α} {v : List α} {c : Nat} (h : c < v.length) : (v.drop c).isEmpty = false := by
  rw [List.isEmpty_eq_false_iff, ne_eq, List.drop_eq_nil_iff]; exact Nat.not_le_of_gt h

/-- what `Tail::update_limit` / `Skip::update_count` push when the view grows: the ≤ `k` items ending `a` before the end -/
theorem reverse_take_drop_reverse {α} (v : List α) (a k : Nat) :
    ((v.reverse.drop a).take k).reverse = (v.take (v.length - a)).drop (v.length - a - k) := by
  rw [List.reverse_take, List.reverse_drop, List.reverse_reverse, List.length_drop, List.length_reverse]

theorem isEmpty_take_drop_reverse {α} {v : List α} {a k : Nat} :
    ((v.reverse.drop a).take k).isEmpty = true ↔ k = 0 ∨ v.length ≤ a := by
  rw [List.isEmpty_iff, List.take_eq_nil_iff, List.drop_eq_nil_iff, List.length_reverse]

theorem drop_take_append_drop {α} (v : List α) {p q : Nat} (h : p ≤ q) :
    (v.take q).drop p ++ v.drop q = v.drop p := by
  rw [List.drop_take, ← Nat.add_sub_cancel' h, ← List.drop_drop, Nat.add_sub_cancel_left, List.take_append_drop]

theorem exists_split {γ} (l : List γ) (i : Nat) (h : i < l.length) :
    ∃ S1 a S2, l = S1 ++ a :: S2 ∧ S1.length = i :=
  ⟨l.take i, l[i], l.drop (i + 1), by rw [← List.drop_eq_getElem_cons h, List.take_append_drop],
    by simp only [List.length_take]; omega⟩

theorem exists_split_le {γ} (l : List γ) (i : Nat) (h : i ≤ l.length) : ∃ S1 S2, l = S1 ++ S2 ∧ S1.length = i :=
  ⟨l.take i, l.drop i, (List.take_append_drop i l).symm, by simp only [List.length_take]; omega⟩

/-- `n`, `hn` apart: `simp` uses it where the index is written another way -/
theorem eraseIdx_mid {γ} (A B : List γ) (x : γ) (n : Nat) (hn : n = A.length) :
    (A ++ x :: B).eraseIdx n = A ++ B := by
  subst hn; rw [List.eraseIdx_append_of_length_le (Nat.le_refl _)]; simp

theorem eraseIdx_take_cons_drop {α} (l : List α) (i : Nat) (h : i < l.length) :
    (l.eraseIdx i).take i ++ l[i] :: (l.eraseIdx i).drop i = l := by
  have hl : (l.take i).length = i := List.length_take_of_le (Nat.le_of_lt h)
  rw [List.eraseIdx_eq_take_drop_succ, List.take_left' hl, List.drop_left' hl, List.getElem_cons_drop h,
    List.take_append_drop]

theorem set_eq_erase_insert {α} (l : List α) (k : Nat) (x : α) (hk : k < l.length) :
    l.set k x = (l.eraseIdx k).take k ++ x :: (l.eraseIdx k).drop k := by
  have := eraseIdx_take_cons_drop (l.set k x) k (by rw [List.length_set]; exact hk)
  rw [List.eraseIdx_set_eq, List.getElem_set_self] at this
  exact this.symm

theorem eraseIdx_perm {α} (l : List α) (k : Nat) (hk : k < l.length) : List.Perm l (l[k] :: l.eraseIdx k) := by
  have := List.perm_middle (a := l[k]) (l₁ := l.take k) (l₂ := l.drop (k + 1))
  rwa [List.getElem_cons_drop hk, List.take_append_drop, ← List.eraseIdx_eq_take_drop_succ] at this

theorem pred_ite (t : Nat) : (if t > 0 then t - 1 else t) = t - 1 := by cases t <;> rfl

theorem map_insert {α β} (f : α → β) (l : List α) (k : Nat) (x : α) :
    (l.take k ++ x :: l.drop k).map f = (l.map f).take k ++ f x :: (l.map f).drop k := by
  simp [List.map_take, List.map_drop]

/-- a split at `new` survives the removal at `old`, at `new - 1` or `new`; kept apart so that `omega` runs in a small context -/
theorem split_eraseIdx {α} (P Q : α → Prop) (l : List α) (old new k : Nat) (hlt : old < l.length) (hnl : new ≤ l.length)
    (hk : (if old < new then new - 1 else new) = k)
    (hb : ∀ j (hj : j < l.length), j < new → P l[j]) (ha : ∀ j (hj : j < l.length), new ≤ j → Q l[j]) :
    k ≤ (l.eraseIdx old).length ∧
    (∀ j (hj : j < (l.eraseIdx old).length), j < k → P (l.eraseIdx old)[j]) ∧
    (∀ j (hj : j < (l.eraseIdx old).length), k ≤ j → Q (l.eraseIdx old)[j]) := by
  have hle : (l.eraseIdx old).length + 1 = l.length := by
    rw [List.length_eraseIdx_of_lt hlt]; exact Nat.sub_add_cancel (Nat.zero_lt_of_lt hlt)
  have hk' : (old < new ∧ k + 1 = new) ∨ (¬ old < new ∧ k = new) := by
    by_cases h : old < new
    · rw [if_pos h] at hk; exact .inl ⟨h, hk ▸ Nat.sub_add_cancel (Nat.zero_lt_of_lt h)⟩
    · rw [if_neg h] at hk; exact .inr ⟨h, hk.symm⟩
  clear hk
  refine ⟨by omega, ?_, ?_⟩ <;> intro j hj hjk <;> rw [List.getElem_eraseIdx] <;> split
  · exact hb j (by omega) (by omega)
  · exact hb (j + 1) (by omega) (by omega)
  · exact ha j (by omega) (by omega)
  · exact ha (j + 1) (by omega) (by omega)

theorem map_tag_id {α} (buf : List (Nat × α)) (f : Nat → Nat) (h : ∀ p ∈ buf, f p.1 = p.1) :
    buf.map (fun p => (f p.1, p.2)) = buf :=
  (List.map_congr_left fun p hp => by rw [h p hp]).trans (List.map_id' buf)

theorem takeWhile_split {α} {p : α → Bool} (a b : List α) (ha : ∀ x ∈ a, p x = true) (hb : ∀ x ∈ b, p x = false) :
    (a ++ b).takeWhile p = a := by
  rw [List.takeWhile_append_of_pos ha]
  cases b with
  | nil => simp
  | cons x xs => rw [List.takeWhile_cons_of_neg (by simp [hb x List.mem_cons_self]), List.append_nil]

/-! shared by the invariants of the other regions -/

theorem drop_drop_sub {β} (l : List β) {a b : Nat} (hab : a ≤ b) : (l.drop a).drop (b - a) = l.drop b := by
  rw [List.drop_drop, Nat.add_sub_cancel' hab]

theorem exists_getLast?_of_lt {β} {l : List β} {n : Nat} (h : n < l.length) : ∃ m, l.getLast? = some m :=
  ⟨_, List.getLast?_eq_some_getLast (List.ne_nil_of_length_pos (Nat.lt_of_le_of_lt (Nat.zero_le _) h))⟩

theorem getLast?_of_getElem? {β} {l : List β} {n : Nat} {m : β} (hm : l[n]? = some m) (hn : n + 1 = l.length) :
    l.getLast? = some m := by
  rw [List.getLast?_eq_getElem?, ← hn]; exact hm

theorem flatMap_drop_of_getElem? {β γ} (f : β → List γ) {l : List β} {n : Nat} {m : β} (hm : l[n]? = some m) :
    (l.drop n).flatMap f = f m ++ (l.drop (n + 1)).flatMap f := by
  obtain ⟨hlt, rfl⟩ := List.getElem?_eq_some_iff.mp hm
  rw [List.drop_eq_getElem_cons hlt, List.flatMap_cons]

theorem countP_set_of_getElem? {α} {p : α → Bool} {l : List α} {i : Nat} {a : α} (h : l[i]? = some a) (b : α) :
    (l.set i b).countP p + (if p a then 1 else 0) = l.countP p + (if p b then 1 else 0) := by
  obtain ⟨hi, rfl⟩ := List.getElem?_eq_some_iff.mp h
  have := List.boole_getElem_le_countP (p := p) hi
  rw [List.countP_set hi]; omega

theorem countP_pos_of_getElem? {α} {p : α → Bool} {l : List α} {i : Nat} {a : α} (h : l[i]? = some a) (hp : p a = true) :
    0 < l.countP p :=
  List.countP_pos_iff.mpr ⟨a, List.mem_of_getElem? h, hp⟩

theorem getElem?_set_cases {β} {l : List β} {i j : Nat} {a b : β} (h : (l.set i a)[j]? = some b) :
    (j = i ∧ b = a) ∨ (j ≠ i ∧ l[j]? = some b) := by
  rw [List.getElem?_set] at h
  split at h
  · subst i; split at h
    · exact .inl ⟨rfl, (Option.some.inj h).symm⟩
    · cases h
  · exact .inr ⟨fun e => by subst e; contradiction, h⟩

theorem getElem?_snoc_cases {β} {l : List β} {j : Nat} {a b : β} (h : (l ++ [a])[j]? = some b) :
    l[j]? = some b ∨ j = l.length ∧ b = a := by
  by_cases hj : j < l.length
  · rw [List.getElem?_append_left hj] at h; exact .inl h
  · rw [List.getElem?_append_right (by omega)] at h
    simp [List.getElem?_singleton] at h
    exact .inr ⟨by omega, h.2.symm⟩

theorem count_snoc {α} [DecidableEq α] (l : List α) (a x : α) :
    (l ++ [a]).count x = l.count x + (if a = x then 1 else 0) := by
  simp [List.count_append, List.count_cons]

theorem foldl_preserves {σ ε} (P : σ → Prop) (f : σ → ε → σ) (h : ∀ s e, P s → P (f s e)) (es : List ε) (s : σ)
    (hs : P s) : P (es.foldl f s) :=
  List.foldlRecOn es f hs fun b hb a _ => h b a hb

theorem getD_false_eq_true {l : List Bool} {h : Nat} : l.getD h false = true ↔ l[h]? = some true := by
  rw [List.getD_eq_getElem?_getD]; cases l[h]? <;> simp

theorem getD_ind {β} {P : β → Prop} {o : Option β} {b : β} (hb : P b) (h : ∀ b', o = some b' → P b') : P (o.getD b) := by
  cases o with
  | none => exact hb
  | some b' => exact h b' rfl

theorem getElem?_set_self_of_getElem? {γ} {l : List γ} {i : Nat} {x : γ} (y : γ) (h : l[i]? = some x) : (l.set i y)[i]? = some y :=
  List.getElem?_set_self (List.getElem?_eq_some_iff.mp h).1

end EV
