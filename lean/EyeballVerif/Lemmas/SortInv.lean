/-
  C11. `SInv` is the pointwise form of the sort invariant, in which the refuted `sort_handle_full` is written; the proofs
  use the permutation form `SInvP`, which implies it (converse not proved) and composes through `Perm.map` / `.cons` /
  `.append`. Push / Pop arms are `Insert` / `Remove` at an end already as values of `handle`.
-/
import EyeballVerif.Lemmas.Bsearch
import EyeballVerif.Lemmas.ListExtra
import EyeballVerif.Lemmas.ApplyAll
namespace EV
open Srt
open scoped List

/-- ordered according to the comparison -/
def SortedBy {α} (cmp : α → α → Ordering) (l : List α) : Prop := l.Pairwise (fun a b => cmp a b ≠ .gt)

/-- the sorted buffer `buf` represents the source `src`: every source position occurs exactly once, tagged
    with the item at that position, and the items are in order -/
def SInv {α} (cmp : α → α → Ordering) (buf : List (Nat × α)) (src : List α) : Prop :=
  (buf.map (·.1)).Nodup ∧ buf.length = src.length ∧ (∀ p ∈ buf, src[p.1]? = some p.2) ∧
  SortedBy cmp (buf.map (·.2))

/-- the three-way insertion (PushFront / Insert / PushBack arms) emits exactly the diff that turns the old
    sorted view into the new one -/
theorem sort_insertAt_emits {α} (buf : List (Nat × α)) (pos ui : Nat) (v : α) (hp : pos ≤ buf.length) :
    applyAll (insertAt buf pos ui v).1 (buf.map (·.2)) = some ((insertAt buf pos ui v).2.map (·.2)) ∧
    (insertAt buf pos ui v).2 = buf.take pos ++ (ui, v) :: buf.drop pos := by
  unfold insertAt
  by_cases h0 : pos = 0
  · subst h0; simp [applyAll_pushFront_cons]
  · simp only [h0, if_false]
    by_cases h1 : pos ≠ buf.length
    · simp [h1, applyAll_insert_cons, hp, List.map_take, List.map_drop]
    · have : pos = buf.length := by omega
      subst this
      simp [applyAll_pushBack_cons]

/-- the three-way removal (PopFront / PopBack / Remove arms) likewise -/
theorem sort_removeAt_emits {α} (buf : List (Nat × α)) (pos : Nat) (hp : pos < buf.length) :
    applyAll (removeAt buf pos).1 (buf.map (·.2)) = some ((removeAt buf pos).2.map (·.2)) ∧
    (removeAt buf pos).2 = buf.eraseIdx pos := by
  unfold removeAt
  have hne : buf ≠ [] := by intro h; simp [h] at hp
  by_cases h0 : pos = 0
  · subst h0; simp [applyAll_popFront_cons, hne, List.map_tail]
  · simp only [h0, if_false]
    by_cases h1 : pos = buf.length - 1
    · subst h1
      simp [applyAll_popBack_cons, hne, List.map_dropLast]
    · simp [h1, applyAll_remove_cons, hp, map_eraseIdx]

/-- the source tagged with its positions: what the sorted buffer is a permutation of -/
def tagged {α} (l : List α) : List (Nat × α) := l.mapIdx fun i v => (i, v)

@[simp] theorem tagged_length {α} (l : List α) : (tagged l).length = l.length := by simp [tagged]

theorem mem_tagged {α} (l : List α) (p : Nat × α) : p ∈ tagged l ↔ l[p.1]? = some p.2 := by
  obtain ⟨i, a⟩ := p
  simp [tagged, List.getElem?_eq_some_iff]

theorem tagged_nil {α} : tagged ([] : List α) = [] := rfl

/-- brings core's `mapIdx` lemmas to `tagged` -/
theorem map_tagged {α β} (g : Nat × α → β) (l : List α) : (tagged l).map g = l.mapIdx fun i v => g (i, v) := by
  simp [tagged, List.mapIdx_eq_zipIdx_map]

theorem tagged_cons {α} (v : α) (l : List α) : tagged (v :: l) = (0, v) :: (tagged l).map (fun p => (p.1 + 1, p.2)) := by
  rw [map_tagged]; exact List.mapIdx_cons

theorem tagged_append {α} (l m : List α) : tagged (l ++ m) = tagged l ++ (tagged m).map (fun p => (p.1 + l.length, p.2)) := by
  rw [map_tagged]; exact List.mapIdx_append

/-- the lambda of `Srt.handle`'s `Insert` arm (`rfl` in the arm lemmas) -/
def shiftUp (i : Nat) {α} (p : Nat × α) : Nat × α := (if p.1 ≥ i then p.1 + 1 else p.1, p.2)
/-- the lambda of the `Remove` arm -/
def shiftDown (i : Nat) {α} (p : Nat × α) : Nat × α := (if p.1 > i then p.1 - 1 else p.1, p.2)

theorem tagged_shiftUp_id {α} (l : List α) (k : Nat) (h : l.length ≤ k) : (tagged l).map (shiftUp k) = tagged l :=
  map_tag_id _ (fun t => if t ≥ k then t + 1 else t) fun p hp =>
    if_neg (Nat.not_le.mpr (Nat.lt_of_lt_of_le (List.getElem?_eq_some_iff.mp ((mem_tagged l p).mp hp)).1 h))

theorem tagged_insert {α} (l : List α) (i : Nat) (v : α) (hi : i ≤ l.length) :
    tagged (l.take i ++ v :: l.drop i) ~ (i, v) :: (tagged l).map (shiftUp i) := by
  have hl : (l.take i).length = i := List.length_take_of_le hi
  have h1 : tagged (l.take i ++ v :: l.drop i) =
      tagged (l.take i) ++ (i, v) :: (tagged (l.drop i)).map (fun p => (p.1 + 1 + i, p.2)) := by
    rw [tagged_append, tagged_cons, hl, List.map_cons, List.map_map, Nat.zero_add]; rfl
  have h2 : (tagged l).map (shiftUp i) =
      tagged (l.take i) ++ (tagged (l.drop i)).map (fun p => (p.1 + 1 + i, p.2)) := by
    conv => lhs; rw [← List.take_append_drop i l]
    rw [tagged_append, List.map_append, tagged_shiftUp_id _ _ (Nat.le_of_eq hl), hl, List.map_map]
    congr 1; apply List.map_congr_left; intro p _
    simp only [Function.comp, shiftUp, ge_iff_le, Nat.le_add_left, if_true]; congr 1; omega
  rw [h1, h2]; exact List.perm_middle

theorem tagged_erase {α} (l : List α) (i : Nat) (x : α) (hx : l[i]? = some x) :
    tagged l ~ (i, x) :: (tagged (l.eraseIdx i)).map (shiftUp i) := by
  obtain ⟨hlt, rfl⟩ := List.getElem?_eq_some_iff.mp hx
  have := tagged_insert (l.eraseIdx i) i l[i] (by rw [List.length_eraseIdx_of_lt hlt]; omega)
  rwa [eraseIdx_take_cons_drop l i hlt] at this

/-- what `Ord` / a `sort_by` comparator must satisfy (a total preorder) -/
structure LawfulCmp {α} (cmp : α → α → Ordering) : Prop where
  swap : ∀ a b, cmp a b = .lt ↔ cmp b a = .gt
  trans : ∀ a b c, cmp a b ≠ .gt → cmp b c ≠ .gt → cmp a c ≠ .gt

/-- what `Vector::sort_by` must satisfy on index-tagged values -/
def SortSpec {α} (cmp : α → α → Ordering) (sortFn : List (Nat × α) → List (Nat × α)) : Prop :=
  ∀ l, sortFn l ~ l ∧ SortedBy cmp ((sortFn l).map (·.2))

/-- the invariant in permutation form: the buffer is a permutation of the tagged source, in order -/
def SInvP {α} (cmp : α → α → Ordering) (buf : List (Nat × α)) (src : List α) : Prop :=
  buf ~ tagged src ∧ SortedBy cmp (buf.map (·.2))

theorem SInvP.length_eq {α} {cmp : α → α → Ordering} {buf : List (Nat × α)} {src : List α} (h : SInvP cmp buf src) :
    buf.length = src.length := by rw [h.1.length_eq, tagged_length]

theorem SInvP.tag_lt {α} {cmp : α → α → Ordering} {buf : List (Nat × α)} {src : List α} (h : SInvP cmp buf src) :
    ∀ p ∈ buf, p.1 < buf.length := by
  intro p hm
  rw [h.length_eq]
  exact (List.getElem?_eq_some_iff.mp ((mem_tagged src p).mp (h.1.mem_iff.mp hm))).1

/-- what one arm must establish -/
abbrev SortArmOK {α} (cmp : α → α → Ordering) (sortFn : List (Nat × α) → List (Nat × α)) (d : Diff α)
    (buf : List (Nat × α)) (src' : List α) : Prop :=
  ∃ out buf', handle cmp sortFn d buf = some (out, buf') ∧ SInvP cmp buf' src' ∧
    applyAll out (buf.map (·.2)) = some (buf'.map (·.2))

theorem SortArmOK.of_handle_eq {α} {cmp : α → α → Ordering} {sortFn} {d d' : Diff α} {buf : List (Nat × α)} {src' : List α}
    (h : handle cmp sortFn d buf = handle cmp sortFn d' buf) (H : SortArmOK cmp sortFn d' buf src') :
    SortArmOK cmp sortFn d buf src' := by
  unfold SortArmOK at *; rwa [h]

theorem tagged_nodup {α} (l : List α) : ((tagged l).map (·.1)).Nodup := by
  -- the tags are `0, 1, …, l.length - 1`
  have tags : (tagged l).map (·.1) = List.range' 0 l.length := by
    rw [map_tagged, List.mapIdx_eq_zipIdx_map]; exact List.zipIdx_map_snd 0 l
  rw [tags]; exact List.nodup_range'

/-- the permutation form gives the pointwise form: every position exactly once, with its item -/
theorem sinvP_sinv {α} (cmp : α → α → Ordering) (buf : List (Nat × α)) (src : List α) (h : SInvP cmp buf src) :
    SInv cmp buf src := by
  obtain ⟨hp, hs⟩ := h
  refine ⟨?_, ?_, ?_, hs⟩
  · exact (hp.map (·.1)).nodup_iff.mpr (tagged_nodup src)
  · rw [hp.length_eq, tagged_length]
  · intro p hpm; exact (mem_tagged src p).mp (hp.mem_iff.mp hpm)

theorem cmp_ge_of_not_lt {α} {cmp : α → α → Ordering} (hc : LawfulCmp cmp) (a b : α) : cmp a b ≠ .lt → cmp b a ≠ .gt := by
  intro h hg; exact h ((hc.swap a b).mpr hg)

theorem mono_of_sorted {α} {cmp : α → α → Ordering} (hc : LawfulCmp cmp) (buf : List (Nat × α)) (v : α)
    (hs : SortedBy cmp (buf.map (·.2))) : Mono (fun p : Nat × α => cmp p.2 v) buf := by
  intro i j hij hj
  have hi : i < buf.length := Nat.lt_of_le_of_lt hij hj
  rw [probe_of_lt _ hi, probe_of_lt _ hj]
  rcases Nat.eq_or_lt_of_le hij with rfl | hlt
  · exact ⟨id, id⟩
  · have hle : cmp buf[i].2 buf[j].2 ≠ .gt := by
      have := List.pairwise_iff_getElem.mp hs i j (by simpa using hi) (by simpa using hj) hlt
      simpa using this
    -- both by contradiction through `buf[i] ≤ buf[j]`
    exact ⟨fun hg => Decidable.byContradiction fun hn => hc.trans _ _ _ hle hn hg,
      fun hl => Decidable.byContradiction fun hn => hc.trans _ _ _ (cmp_ge_of_not_lt hc _ _ hn) hle ((hc.swap _ _).mp hl)⟩

/-- `findPos` splits a sorted buffer around `v` -/
theorem findPos_spec {α} {cmp : α → α → Ordering} (hc : LawfulCmp cmp) (buf : List (Nat × α)) (v : α)
    (hs : SortedBy cmp (buf.map (·.2))) :
    findPos cmp buf v ≤ buf.length ∧
    (∀ j (hj : j < buf.length), j < findPos cmp buf v → cmp buf[j].2 v ≠ .gt) ∧
    (∀ j (hj : j < buf.length), findPos cmp buf v ≤ j → cmp v buf[j].2 ≠ .gt) := by
  obtain ⟨h1, h2, h3⟩ := bsearch_spec (fun p : Nat × α => cmp p.2 v) buf (mono_of_sorted hc buf v hs)
  refine ⟨h1, fun j hj hlt => ?_, fun j hj hle => cmp_ge_of_not_lt hc _ _ ?_⟩
  · have := h2 j hlt; rwa [probe_of_lt _ hj] at this
  · have := h3 j hle hj; rwa [probe_of_lt _ hj] at this

/-- inserting `x` at a position that splits the sorted list around it keeps it sorted -/
theorem sorted_insert {α} {cmp : α → α → Ordering} (l : List α) (x : α) (pos : Nat)
    (hs : SortedBy cmp l) (hp : pos ≤ l.length)
    (hb : ∀ j (hj : j < l.length), j < pos → cmp l[j] x ≠ .gt)
    (ha : ∀ j (hj : j < l.length), pos ≤ j → cmp x l[j] ≠ .gt) :
    SortedBy cmp (l.take pos ++ x :: l.drop pos) := by
  unfold SortedBy at *
  -- `l = take ++ drop` sorted: both parts are, and first ≤ second itemwise
  rw [← List.take_append_drop pos l, List.pairwise_append] at hs
  obtain ⟨h1, h2, h3⟩ := hs
  refine List.pairwise_append.mpr ⟨h1, List.pairwise_cons.mpr ⟨fun b hb' => ?_, h2⟩, fun a ha' b hb' => ?_⟩
  · obtain ⟨k, hk, rfl⟩ := List.mem_drop_iff_getElem.mp hb'
    exact ha _ _ (Nat.le_add_right ..)
  · rcases List.mem_cons.mp hb' with rfl | hb''
    · obtain ⟨k, hk, rfl⟩ := List.mem_take_iff_getElem.mp ha'
      exact hb k _ (Nat.lt_of_lt_of_le hk (Nat.min_le_left ..))
    · exact h3 a ha' b hb''

theorem insertAt_sorted_perm {α} {cmp : α → α → Ordering} (b : List (Nat × α)) (k : Nat) (x : Nat × α)
    (hs : SortedBy cmp (b.map (·.2))) (hk : k ≤ b.length)
    (hb : ∀ j (hj : j < b.length), j < k → cmp b[j].2 x.2 ≠ .gt)
    (ha : ∀ j (hj : j < b.length), k ≤ j → cmp x.2 b[j].2 ≠ .gt) :
    b.take k ++ x :: b.drop k ~ x :: b ∧ SortedBy cmp ((b.take k ++ x :: b.drop k).map (·.2)) := by
  constructor
  · have := List.perm_middle (a := x) (l₁ := b.take k) (l₂ := b.drop k)
    rwa [List.take_append_drop] at this
  · rw [map_insert]
    have hl : (b.map (·.2)).length = b.length := List.length_map _
    refine sorted_insert _ _ _ hs (hl ▸ hk) (fun j hj hlt => ?_) (fun j hj hle => ?_)
    · rw [List.getElem_map]; exact hb j (hl ▸ hj) hlt
    · rw [List.getElem_map]; exact ha j (hl ▸ hj) hle

theorem sinvP_insert {α} {cmp : α → α → Ordering} (hc : LawfulCmp cmp) (sortFn) (buf : List (Nat × α)) (src : List α) (i : Nat) (v : α)
    (hil : i ≤ src.length) (hi : SInvP cmp buf src) :
    SortArmOK cmp sortFn (.insert i v) buf (src.take i ++ v :: src.drop i) := by
  obtain ⟨hp, hs⟩ := hi
  -- shifted tags, same items: same order, same view
  have hm : (buf.map (shiftUp i)).map (·.2) = buf.map (·.2) := by rw [List.map_map]; rfl
  rw [← hm] at hs
  obtain ⟨hpl, hb, ha⟩ := findPos_spec hc _ v hs
  obtain ⟨he1, he2⟩ := sort_insertAt_emits (buf.map (shiftUp i)) _ i v hpl
  obtain ⟨h1, h2⟩ := insertAt_sorted_perm _ _ (i, v) hs hpl hb ha
  rw [← he2] at h1 h2
  rw [hm] at he1
  -- `buf' ~ (i, v) :: buf.map (shiftUp i) ~ (i, v) :: (tagged src).map (shiftUp i) ~ tagged src'`
  exact ⟨_, _, rfl, ⟨h1.trans (((hp.map _).cons _).trans (tagged_insert src i v hil).symm), h2⟩, he1⟩

theorem handle_pushFront_eq {α} (cmp : α → α → Ordering) (sortFn) (v : α) (buf : List (Nat × α)) :
    handle cmp sortFn (.pushFront v) buf = handle cmp sortFn (.insert 0 v) buf := by
  simp only [handle, ge_iff_le, Nat.zero_le, if_true]

theorem handle_pushBack_eq {α} (cmp : α → α → Ordering) (sortFn) (v : α) (buf : List (Nat × α))
    (h : ∀ p ∈ buf, p.1 < buf.length) :
    handle cmp sortFn (.pushBack v) buf = handle cmp sortFn (.insert buf.length v) buf := by
  have hm := map_tag_id buf (fun t => if t ≥ buf.length then t + 1 else t)
    (fun p hp => if_neg (Nat.not_le.mpr (h p hp)))
  simp only [handle, hm]

theorem sinvP_pushFront {α} {cmp : α → α → Ordering} (hc : LawfulCmp cmp) (sortFn) (buf : List (Nat × α)) (src : List α) (v : α)
    (hi : SInvP cmp buf src) :
    SortArmOK cmp sortFn (.pushFront v) buf (v :: src) := by
  have := sinvP_insert hc sortFn buf src 0 v (Nat.zero_le _) hi
  rw [List.take_zero, List.drop_zero, List.nil_append] at this
  exact .of_handle_eq (handle_pushFront_eq ..) this

theorem sinvP_pushBack {α} {cmp : α → α → Ordering} (hc : LawfulCmp cmp) (sortFn) (buf : List (Nat × α)) (src : List α) (v : α)
    (hi : SInvP cmp buf src) :
    ∃ out buf', handle cmp sortFn (.pushBack v) buf = some (out, buf') ∧ SInvP cmp buf' (src ++ [v]) ∧
      applyAll out (buf.map (·.2)) = some (buf'.map (·.2)) := by
  have := sinvP_insert hc sortFn buf src src.length v (Nat.le_refl _) hi
  rw [List.take_length, List.drop_length] at this
  exact SortArmOK.of_handle_eq (hi.length_eq ▸ handle_pushBack_eq cmp sortFn v buf hi.tag_lt) this

theorem shiftDown_shiftUp {α} (i : Nat) (p : Nat × α) : shiftDown i (shiftUp i p) = p := by
  simp only [shiftDown, shiftUp]
  by_cases h : p.1 ≥ i
  · have : p.1 + 1 > i := by omega
    simp [h, this]
  · have : ¬ p.1 > i := by omega
    simp [h, this]

theorem posOf_eq_some {α} {buf : List (Nat × α)} {i pos : Nat} (h : posOf buf i = some pos) :
    ∃ hlt : pos < buf.length, buf[pos].1 = i := by
  simp only [posOf] at h
  split at h <;> cases h
  rename_i hlt
  exact ⟨hlt, by simpa using List.findIdx_getElem (w := hlt)⟩

/-- what `Remove` and `Set` share -/
theorem remove_core {α} (buf : List (Nat × α)) (src : List α) (i : Nat) (hp : buf ~ tagged src) (hil : i < src.length) :
    ∃ pos, posOf buf i = some pos ∧ pos < buf.length ∧
      buf.eraseIdx pos ~ (tagged (src.eraseIdx i)).map (shiftUp i) := by
  have hx : src[i]? = some src[i] := List.getElem?_eq_getElem hil
  have hmem : (i, src[i]) ∈ buf := hp.mem_iff.mpr ((mem_tagged src (i, src[i])).mpr hx)
  have hfi : buf.findIdx (·.1 = i) < buf.length := List.findIdx_lt_length_of_exists ⟨(i, src[i]), hmem, by simp⟩
  obtain ⟨_, htag⟩ := posOf_eq_some (if_pos hfi : posOf buf i = some _)
  -- tags determine items: the item found is `(i, src[i])`
  have hitem := (mem_tagged src _).mp (hp.mem_iff.mp (List.getElem_mem hfi))
  rw [htag, hx] at hitem
  have hb : buf[buf.findIdx (·.1 = i)] = (i, src[i]) := Prod.ext htag (Option.some.inj hitem).symm
  -- `(i, src[i]) :: buf.eraseIdx pos ~ buf ~ tagged src ~ (i, src[i]) :: (tagged (src.eraseIdx i)).map _`: cancel the head
  exact ⟨_, if_pos hfi, hfi, ((hb ▸ eraseIdx_perm buf _ hfi).symm.trans (hp.trans (tagged_erase src i _ hx))).cons_inv⟩

theorem sinvP_remove {α} {cmp : α → α → Ordering} (sortFn) (buf : List (Nat × α)) (src : List α) (i : Nat)
    (hil : i < src.length) (hi : SInvP cmp buf src) :
    SortArmOK cmp sortFn (.remove i) buf (src.eraseIdx i) := by
  obtain ⟨hp, hs⟩ := hi
  obtain ⟨pos, hpos, hlt, hperm⟩ := remove_core buf src i hp hil
  have hm : (buf.map (shiftDown i)).map (·.2) = buf.map (·.2) := by rw [List.map_map]; rfl
  have he := sort_removeAt_emits (buf.map (shiftDown i)) pos (by simpa using hlt)
  rw [hm] at he
  refine ⟨_, _, by simp only [handle, hpos]; rfl, ⟨?_, ?_⟩, he.1⟩
  · rw [he.2, map_eraseIdx]
    have := hperm.map (shiftDown i)
    rwa [List.map_map, List.map_congr_left (f := shiftDown i ∘ shiftUp i) (g := id) fun p _ => shiftDown_shiftUp i p, List.map_id] at this
  · rw [he.2, ← map_eraseIdx, hm]
    exact List.Pairwise.eraseIdx _ hs

/-- the fold of the `PopFront` arm is `Remove 0`'s shift -/
theorem popFront_shift {α} (buf : List (Nat × α)) (pos : Nat) (h : posOf buf 0 = some pos) :
    (buf.mapIdx fun j p => if j = pos then p else (p.1 - 1, p.2)) =
      buf.map fun p => (if p.1 > 0 then p.1 - 1 else p.1, p.2) := by
  obtain ⟨hlt, h0⟩ := posOf_eq_some h
  apply List.ext_getElem (by rw [List.length_mapIdx, List.length_map])
  intro j h1 h2
  rw [List.getElem_mapIdx, List.getElem_map, pred_ite]
  by_cases hj : j = pos
  · subst hj; rw [if_pos rfl]; exact Prod.ext (by rw [h0]) rfl
  · rw [if_neg hj]

theorem handle_popFront_eq {α} (cmp : α → α → Ordering) (sortFn) (buf : List (Nat × α)) :
    handle cmp sortFn .popFront buf = handle cmp sortFn (.remove 0) buf := by
  simp only [handle]
  cases h : posOf buf 0 with
  | none => rfl
  | some pos => simp only [popFront_shift buf pos h]

theorem handle_popBack_eq {α} (cmp : α → α → Ordering) (sortFn) (buf : List (Nat × α))
    (h : ∀ p ∈ buf, p.1 < buf.length) :
    handle cmp sortFn .popBack buf = handle cmp sortFn (.remove (buf.length - 1)) buf := by
  have hm := map_tag_id buf (fun t => if t > buf.length - 1 then t - 1 else t)
    (fun p hp => if_neg (Nat.not_lt.mpr (Nat.le_sub_one_of_lt (h p hp))))
  simp only [handle, hm]

theorem sinvP_popFront {α} {cmp : α → α → Ordering} (sortFn) (buf : List (Nat × α)) (src : List α)
    (hne : src ≠ []) (hi : SInvP cmp buf src) :
    SortArmOK cmp sortFn .popFront buf src.tail := by
  have := sinvP_remove sortFn buf src 0 (List.length_pos_iff.mpr hne) hi
  rw [List.eraseIdx_zero] at this
  exact .of_handle_eq (handle_popFront_eq ..) this

theorem sinvP_popBack {α} {cmp : α → α → Ordering} (sortFn) (buf : List (Nat × α)) (src : List α)
    (hne : src ≠ []) (hi : SInvP cmp buf src) :
    SortArmOK cmp sortFn .popBack buf src.dropLast := by
  have := sinvP_remove sortFn buf src (src.length - 1) (Nat.sub_one_lt (mt List.length_eq_zero_iff.mp hne)) hi
  rw [List.eraseIdx_length_sub_one] at this
  exact .of_handle_eq (hi.length_eq ▸ handle_popBack_eq cmp sortFn buf hi.tag_lt) this

/-- unified form of the `Set` arm: the old position is vacated and the new value inserted at `k` -/
theorem handle_set_eq {α} (cmp : α → α → Ordering) (sortFn) (buf : List (Nat × α)) (i : Nat) (v : α) (old : Nat)
    (ho : posOf buf i = some old) (hlt : old < buf.length) :
    let new := findPos cmp buf v
    let k := if old < new then new - 1 else new
    handle cmp sortFn (.set i v) buf =
      some (if old = k then [.set k v] else [.remove old, .insert k v],
            (buf.eraseIdx old).take k ++ (i, v) :: (buf.eraseIdx old).drop k) := by
  simp only [handle, ho]
  by_cases h1 : old < findPos cmp buf v
  · simp only [h1, if_true]
    by_cases h2 : old = findPos cmp buf v - 1
    · simp only [h2, if_true]
      rw [← h2, set_eq_erase_insert buf old (i, v) hlt]
    · simp only [h2, if_false]
  · simp only [h1, if_false]
    by_cases h2 : old = findPos cmp buf v
    · simp only [h2, if_true]
      rw [← h2, set_eq_erase_insert buf old (i, v) hlt]
    · simp only [h2, if_false]

theorem sinvP_set {α} {cmp : α → α → Ordering} (hc : LawfulCmp cmp) (sortFn) (buf : List (Nat × α)) (src : List α) (i : Nat) (v : α)
    (hil : i < src.length) (hi : SInvP cmp buf src) :
    ∃ out buf', handle cmp sortFn (.set i v) buf = some (out, buf') ∧ SInvP cmp buf' (src.set i v) ∧
      applyAll out (buf.map (·.2)) = some (buf'.map (·.2)) := by
  obtain ⟨hp, hs⟩ := hi
  obtain ⟨old, hpos, hlt, hperm⟩ := remove_core buf src i hp hil
  have hh := handle_set_eq cmp sortFn buf i v old hpos hlt
  -- open the two `let`s of `handle_set_eq`, then name `new` and `k` as there
  dsimp only at hh
  obtain ⟨hpl, hb, ha⟩ := findPos_spec hc buf v hs
  generalize findPos cmp buf v = new at *
  generalize hk : (if old < new then new - 1 else new) = k at *
  obtain ⟨hkb, hb', ha'⟩ := split_eraseIdx (cmp ·.2 v ≠ .gt) (cmp v ·.2 ≠ .gt) buf old new k hlt hpl hk hb ha
  obtain ⟨e1, e2⟩ := insertAt_sorted_perm (buf.eraseIdx old) k (i, v)
    (by rw [← map_eraseIdx]; exact List.Pairwise.eraseIdx _ hs) hkb hb' ha'
  refine ⟨_, _, hh, ⟨?_, e2⟩, ?_⟩
  · -- `(src.set i v).eraseIdx i = src.eraseIdx i`, so `remove_core` for the old source serves the new one
    have e3 := tagged_erase (src.set i v) i v (by simp [hil])
    rw [List.eraseIdx_set_eq] at e3
    exact e1.trans ((hperm.cons _).trans e3.symm)
  · have hlen : (buf.map (·.2)).length = buf.length := List.length_map _
    by_cases hok : old = k
    · simp only [hok, if_true]
      rw [applyAll_set_cons _ _ (by rw [hlen, ← hok]; exact hlt), applyAll_nil, ← hok, ← set_eq_erase_insert buf old (i, v) hlt, List.map_set]
    · simp only [hok, if_false]
      rw [applyAll_remove_cons _ (by rw [hlen]; exact hlt), applyAll_insert_cons _ _ (by rw [map_eraseIdx, List.length_map]; exact hkb), applyAll_nil,
        map_insert, map_eraseIdx]

theorem sinvP_clear {α} {cmp : α → α → Ordering} (sortFn) (buf : List (Nat × α)) :
    SortArmOK cmp sortFn .clear buf [] :=
  ⟨_, _, rfl, ⟨.refl _, List.Pairwise.nil⟩, rfl⟩

theorem sinvP_reset {α} {cmp : α → α → Ordering} (sortFn) (hs : SortSpec cmp sortFn) (buf : List (Nat × α)) (vs : List α) :
    SortArmOK cmp sortFn (.reset vs) buf vs :=
  ⟨_, _, rfl, hs _, rfl⟩

/-- the initial view (`SortImpl::new`) -/
theorem sinvP_init {α} {cmp : α → α → Ordering} (sortFn) (hs : SortSpec cmp sortFn) (vs : List α) :
    SInvP cmp (Srt.init sortFn vs).2 vs ∧ (Srt.init sortFn vs).1 = (Srt.init sortFn vs).2.map (·.2) :=
  ⟨hs _, rfl⟩

theorem sorted_le_of_last_le {α} {cmp : α → α → Ordering} (hc : LawfulCmp cmp) {l : List α} (hs : SortedBy cmp l)
    {last v : α} (hl : l.getLast? = some last) (hv : cmp last v ≠ .gt) : ∀ a ∈ l, cmp a v ≠ .gt := by
  obtain ⟨ys, rfl⟩ := List.getLast?_eq_some_iff.mp hl
  intro a ha
  rcases List.mem_append.mp ha with h | h
  · exact hc.trans _ _ _ ((List.pairwise_append.mp hs).2.2 a h last (List.mem_singleton_self _)) hv
  · cases List.mem_singleton.mp h; exact hv

theorem appendLoop_cons {α} (cmp : α → α → Ordering) (ui : Nat) (v : α) (rest buf : List (Nat × α)) (out : List (Diff α))
    (last : Nat × α) (hl : buf.getLast? = some last) :
    appendLoop cmp ((ui, v) :: rest) buf out =
      if cmp v last.2 ≠ .lt then (out, buf, (ui, v) :: rest)
      else if findPos cmp buf v ≠ buf.length then
        appendLoop cmp rest (buf.take (findPos cmp buf v) ++ (ui, v) :: buf.drop (findPos cmp buf v))
          (out ++ [if findPos cmp buf v = 0 then Diff.pushFront v else Diff.insert (findPos cmp buf v) v])
      else (out, buf, (ui, v) :: rest) := by
  rw [appendLoop]
  simp only [hl]

/-- the `while let Some(new_value)` loop of the `Append` arm -/
theorem appendLoop_spec {α} {cmp : α → α → Ordering} (hc : LawfulCmp cmp) (new : List (Nat × α)) :
    ∀ (buf : List (Nat × α)) (out : List (Diff α)), buf ≠ [] → SortedBy cmp (buf.map (·.2)) → SortedBy cmp (new.map (·.2)) →
    ∃ ds, (appendLoop cmp new buf out).1 = out ++ ds ∧
      applyAll ds (buf.map (·.2)) = some ((appendLoop cmp new buf out).2.1.map (·.2)) ∧
      (appendLoop cmp new buf out).2.1 ++ (appendLoop cmp new buf out).2.2 ~ buf ++ new ∧
      SortedBy cmp (((appendLoop cmp new buf out).2.1 ++ (appendLoop cmp new buf out).2.2).map (·.2)) := by
  induction new with
  | nil =>
    intro buf out _ hsb _
    exact ⟨[], (List.append_nil out).symm, rfl, .refl _, by simpa [appendLoop] using hsb⟩
  | cons x rest ih =>
    intro buf out hne hsb hsn
    obtain ⟨ui, v⟩ := x
    obtain ⟨last, hl⟩ : ∃ last, buf.getLast? = some last := ⟨_, List.getLast?_eq_some_getLast hne⟩
    rw [appendLoop_cons cmp ui v rest buf out last hl]
    obtain ⟨hvrest, hsn'⟩ : (∀ b ∈ rest.map (·.2), cmp v b ≠ .gt) ∧ SortedBy cmp (rest.map (·.2)) := List.pairwise_cons.mp hsn
    by_cases hge : cmp v last.2 ≠ .lt
    · rw [if_pos hge]
      refine ⟨[], by simp, rfl, List.Perm.refl _, ?_⟩
      -- buf ≤ last ≤ v ≤ rest
      have hbl : ∀ a ∈ buf.map (·.2), cmp a v ≠ .gt :=
        sorted_le_of_last_le hc hsb (by rw [List.getLast?_map, hl]; rfl) (cmp_ge_of_not_lt hc _ _ hge)
      simp only [SortedBy, List.map_append, List.map_cons]
      rw [List.pairwise_append]
      refine ⟨hsb, hsn, ?_⟩
      intro a ha b hb
      rcases List.mem_cons.mp hb with rfl | hb'
      · exact hbl a ha
      · exact hc.trans _ _ _ (hbl a ha) (hvrest b hb')
    · have hlt : cmp v last.2 = .lt := Decidable.of_not_not hge
      rw [if_neg hge]
      obtain ⟨hpl, hb, ha⟩ := findPos_spec hc buf v hsb
      by_cases hpe : findPos cmp buf v ≠ buf.length
      · rw [if_pos hpe]
        generalize findPos cmp buf v = pos at *
        obtain ⟨h1, h2⟩ := insertAt_sorted_perm buf pos (ui, v) hsb hpl hb ha
        have h3 : applyAll [if pos = 0 then Diff.pushFront v else Diff.insert pos v] (buf.map (·.2)) =
            some ((buf.take pos ++ (ui, v) :: buf.drop pos).map (·.2)) := by
          rw [map_insert]
          split
          · rename_i h0; subst h0; rfl
          · exact applyAll_insert_cons [] v (by rw [List.length_map]; exact hpl)
        obtain ⟨ds, hout, hreplay, hpm, hsorted⟩ := ih _ (out ++ [if pos = 0 then Diff.pushFront v else Diff.insert pos v]) (by simp) h2 hsn'
        refine ⟨_ :: ds, by rw [hout, List.append_assoc]; rfl, ?_, ?_, hsorted⟩
        · rw [← List.singleton_append, applyAll_append, h3]; exact hreplay
        · exact hpm.trans ((h1.append_right rest).trans List.perm_middle.symm)
      · exfalso
        have hpe' : findPos cmp buf v = buf.length := Decidable.of_not_not hpe
        -- the search says `last ≤ v`, the fast path said `v < last`
        have hpos : 0 < buf.length := List.length_pos_iff.mpr hne
        rw [List.getLast?_eq_getElem?, List.getElem?_eq_getElem (by omega)] at hl
        cases hl
        exact hb (buf.length - 1) (by omega) (by omega) ((hc.swap _ _).mp hlt)

theorem sinvP_append {α} {cmp : α → α → Ordering} (hc : LawfulCmp cmp) (sortFn) (hss : SortSpec cmp sortFn)
    (buf : List (Nat × α)) (src vs : List α) (hi : SInvP cmp buf src) :
    ∃ out buf', handle cmp sortFn (.append vs) buf = some (out, buf') ∧ SInvP cmp buf' (src ++ vs) ∧
      applyAll out (buf.map (·.2)) = some (buf'.map (·.2)) := by
  have hl := hi.length_eq
  obtain ⟨hp, hs⟩ := hi
  simp only [handle]
  have hnp : sortFn (vs.mapIdx fun i v => (i + buf.length, v)) ~ (tagged vs).map (fun p => (p.1 + src.length, p.2)) := by
    rw [← hl, map_tagged]; exact (hss _).1
  have hns := (hss (vs.mapIdx fun i v => (i + buf.length, v))).2
  generalize sortFn (vs.mapIdx fun i v => (i + buf.length, v)) = new at *
  have hperm : ∀ b : List (Nat × α), b ~ buf ++ new → b ~ tagged (src ++ vs) := fun b hb => by
    rw [tagged_append]; exact hb.trans (hp.append hnp)
  by_cases he : buf.isEmpty = true
  · simp only [he, if_true]
    cases List.isEmpty_iff.mp he
    exact ⟨_, _, rfl, ⟨hperm _ (.refl _), by simpa using hns⟩, rfl⟩
  · simp only [he, Bool.false_eq_true, if_false]
    obtain ⟨ds, hout, hreplay, hpm, hsorted⟩ := appendLoop_spec hc new buf [] (fun h => he (List.isEmpty_iff.mpr h)) hs hns
    generalize appendLoop cmp new buf [] = r at *
    obtain ⟨out, buf', left⟩ := r
    cases hout
    by_cases hle : left.isEmpty = true
    · simp only [hle, if_true]
      cases List.isEmpty_iff.mp hle
      rw [List.append_nil] at hpm hsorted
      exact ⟨_, _, rfl, ⟨hperm _ hpm, hsorted⟩, hreplay⟩
    · simp only [hle, Bool.false_eq_true, if_false]
      refine ⟨_, _, rfl, ⟨hperm _ hpm, hsorted⟩, ?_⟩
      rw [applyAll_append, hreplay, List.map_append]; rfl

/-- a `Truncate` that does not shorten anything is harmless (the only `Truncate` for which the arm is right) -/
theorem sinvP_truncate_noop {α} {cmp : α → α → Ordering} (sortFn) (buf : List (Nat × α)) (src : List α) (n : Nat)
    (hn : src.length ≤ n) (hi : SInvP cmp buf src) :
    SortArmOK cmp sortFn (.truncate n) buf (src.take n) := by
  have hf : buf.filter (fun p => decide (p.1 < n)) = buf :=
    List.filter_eq_self.mpr fun p hpm => decide_eq_true (Nat.lt_of_lt_of_le (hi.tag_lt p hpm) (hi.length_eq ▸ hn))
  refine ⟨_, _, rfl, ?_, ?_⟩
  · simp only [hf, List.take_of_length_le hn]; exact hi
  · rw [hf, applyAll_truncate_cons, List.take_of_length_le (by rw [List.length_map, hi.length_eq]; exact hn)]; rfl

theorem appendLoop_noTrunc {α} (cmp : α → α → Ordering) (new : List (Nat × α)) :
    ∀ (buf : List (Nat × α)) (out : List (Diff α)), NoTrunc out → NoTrunc (appendLoop cmp new buf out).1 := by
  induction new with
  | nil => intro buf out h; exact h
  | cons x rest ih =>
    intro buf out h
    cases hl : buf.getLast? with
    | none => rw [appendLoop]; simp only [hl]; exact h
    | some last =>
      rw [appendLoop_cons cmp x.1 x.2 rest buf out last hl]
      split
      · exact h
      · split
        · refine ih _ _ (noTrunc_append.mpr ⟨h, noTrunc_singleton fun n => ?_⟩)
          split <;> nofun
        · exact h

theorem insertAt_noTrunc {α} (buf : List (Nat × α)) (pos ui : Nat) (v : α) : NoTrunc (insertAt buf pos ui v).1 := by
  simp only [insertAt, apply_ite Prod.fst, apply_ite NoTrunc, noTrunc_cons, noTrunc_nil, ne_eq, reduceCtorEq, not_false_eq_true,
    implies_true, and_self, ite_self]

theorem removeAt_noTrunc {α} (buf : List (Nat × α)) (pos : Nat) : NoTrunc (removeAt buf pos).1 := by
  simp only [removeAt, apply_ite Prod.fst, apply_ite NoTrunc, noTrunc_cons, noTrunc_nil, ne_eq, reduceCtorEq, not_false_eq_true,
    implies_true, and_self, ite_self]

/-! the reference sort `Srt.stableSort` (for `stableSort_spec`, Props/C11Sort) -/

theorem insertSorted_perm {α} (cmp : α → α → Ordering) (x : Nat × α) (l : List (Nat × α)) : insertSorted cmp x l ~ x :: l := by
  induction l with
  | nil => simp [insertSorted]
  | cons y ys ih =>
    simp only [insertSorted]
    split
    · exact List.Perm.refl _
    · exact (List.Perm.cons y ih).trans (List.Perm.swap x y ys)

theorem insertSorted_sorted {α} {cmp : α → α → Ordering} (hc : LawfulCmp cmp) (x : Nat × α) (l : List (Nat × α))
    (hs : SortedBy cmp (l.map (·.2))) : SortedBy cmp ((insertSorted cmp x l).map (·.2)) := by
  induction l with
  | nil => exact List.pairwise_singleton _ _
  | cons y ys ih =>
    obtain ⟨hy, hys⟩ := List.pairwise_cons.mp hs
    simp only [insertSorted]
    split
    · -- `x < y`, and `y` is at most everything behind it
      rename_i hlt
      have hxy : cmp x.2 y.2 ≠ .gt := by rw [hlt]; decide
      exact List.pairwise_cons.mpr ⟨fun b hb => (List.mem_cons.mp hb).elim (· ▸ hxy) fun h => hc.trans _ _ _ hxy (hy b h), hs⟩
    · -- `y` stays in front: `y ≤ x`, `y ≤` the rest, and the tail holds nothing else
      rename_i hnlt
      refine List.pairwise_cons.mpr ⟨fun b hb => ?_, ih hys⟩
      rcases List.mem_cons.mp (((insertSorted_perm cmp x ys).map (·.2)).mem_iff.mp hb) with rfl | h
      · exact cmp_ge_of_not_lt hc _ _ hnlt
      · exact hy b h


end EV
