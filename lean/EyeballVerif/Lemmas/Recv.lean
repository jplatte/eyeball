/-
  The receiving side of the channel model (subscriber.rs): one `poll_next` of either stream flavour as a set of rules (`PStep`,
  sound and total), one per leaf of `pollPlain` / `pollBatched`. Everything said about a poll elsewhere is a case analysis
  over these rules.
-/
import EyeballVerif.Model.OVec
import EyeballVerif.Lemmas.ListExtra
namespace EV

theorem tryRecv_ok {α} (B : Nat) (log : List (Msg α)) (c : Bool) (n : Nat) (h : ¬ n + B < log.length)
    (m : Msg α) (hm : log[n]? = some m) : tryRecv B log c n = (.ok m, n + 1) := by
  simp [tryRecv, h, hm]

theorem tryRecv_end {α} (B : Nat) (log : List (Msg α)) (c : Bool) (n : Nat) (h : log.length ≤ n) :
    tryRecv B log c n = (if c then .closed else .empty, n) := by
  have h1 : ¬ n + B < log.length := by omega
  have h2 : log[n]? = none := by simp [h]
  simp [tryRecv, h1, h2]

theorem tryRecv_lagged {α} (B : Nat) (log : List (Msg α)) (c : Bool) (n : Nat) (h : n + B < log.length) :
    tryRecv B log c n = (.lagged, log.length - B) := by
  simp [tryRecv, h]

/-- a cursor stands at a message inside the window (`tryRecv_ok`), behind the window (`tryRecv_lagged`) or at the end
    (`tryRecv_end`) -/
theorem cursor_cases {α} (B : Nat) (log : List (Msg α)) (n : Nat) :
    (∃ m, log[n]? = some m ∧ ¬ n + B < log.length) ∨ n + B < log.length ∨ log.length ≤ n := by
  by_cases hl : n + B < log.length
  · exact .inr (.inl hl)
  · cases hm : log[n]? with
    | some m => exact .inl ⟨m, rfl, hl⟩
    | none => exact .inr (.inr (by simpa using hm))

/-- the last message among those at positions `≥ n`, else the one carried in -/
def finalMsg {α} (log : List (Msg α)) (n : Nat) (msg : Option (Msg α)) : Option (Msg α) :=
  if n < log.length then log.getLast? else msg

theorem finalMsg_succ {α} {log : List (Msg α)} {n : Nat} {m : Msg α} (msg : Option (Msg α)) (hm : log[n]? = some m) :
    finalMsg log (n + 1) (some m) = finalMsg log n msg := by
  have hlt := (List.getElem?_eq_some_iff.mp hm).1
  simp only [finalMsg, hlt, if_true]
  split
  · rfl
  · exact (getLast?_of_getElem? hm (by omega)).symm

/-- `handle_lag` drains everything retained and lands on the newest message -/
theorem handleLag_spec {α} (B : Nat) (log : List (Msg α)) (c : Bool) (fuel : Nat) :
    ∀ (n : Nat) (msg : Option (Msg α)), n ≤ log.length → ¬ n + B < log.length → log.length - n < fuel →
      handleLag B log c fuel n msg =
        (match finalMsg log n msg with
         | some m => some (some m.state)
         | none => if c then some none else none, log.length) := by
  induction fuel with
  | zero => intro n msg _ _ hf; omega
  | succ f ih =>
    intro n msg hn hw hf
    unfold handleLag
    by_cases hlt : n < log.length
    · have hm : log[n]? = some log[n] := by simp [hlt]
      rw [tryRecv_ok B log c n hw _ hm]
      simp only
      rw [ih (n + 1) _ hlt (by omega) (by omega), finalMsg_succ msg hm]
    · obtain rfl : n = log.length := Nat.le_antisymm hn (Nat.le_of_not_lt hlt)
      rw [tryRecv_end B log c _ (Nat.le_refl _)]
      have : finalMsg log log.length msg = msg := if_neg (Nat.lt_irrefl _)
      rw [this]; cases c <;> cases msg <;> rfl

/-- the `try_recv` loop of the batched stream collects everything retained, in order -/
theorem batchLoop_spec {α} (B : Nat) (log : List (Msg α)) (c : Bool) (fuel : Nat) :
    ∀ (n : Nat) (acc : List (Diff α)), n ≤ log.length → ¬ n + B < log.length → log.length - n < fuel →
      batchLoop B log c fuel n acc = (.batch (acc ++ (log.drop n).flatMap (·.diffs)), log.length) := by
  induction fuel with
  | zero => intro n acc _ _ hf; omega
  | succ f ih =>
    intro n acc hn hw hf
    unfold batchLoop
    by_cases hlt : n < log.length
    · have hm : log[n]? = some log[n] := by simp [hlt]
      rw [tryRecv_ok B log c n hw _ hm]
      simp only
      rw [ih (n + 1) _ hlt (by omega) (by omega), flatMap_drop_of_getElem? _ hm, List.append_assoc]
    · obtain rfl : n = log.length := Nat.le_antisymm hn (Nat.le_of_not_lt hlt)
      rw [tryRecv_end B log c _ (Nat.le_refl _)]
      cases c <;> simp

def resetItem {α} (batched : Bool) (vs : List α) : Item α := if batched then .batch [.reset vs] else .one (.reset vs)

theorem resetItem_cases {α} (b : Bool) (vs : List α) : resetItem b vs = .one (.reset vs) ∨ resetItem b vs = .batch [.reset vs] := by
  cases b <;> simp [resetItem]

def pollAs {α} (b : Bool) (B : Nat) (log : List (Msg α)) (c : Bool) (r : Sub α) : Item α × Sub α :=
  if b then pollBatched B log c r else pollPlain B log c r

theorem handleLag_lagged {α} (B : Nat) (log : List (Msg α)) (c : Bool) (hB : 0 < B) (hl : B < log.length) (m : Msg α)
    (hm : log.getLast? = some m) : handleLag B log c (B + 2) (log.length - B) none = (some (some m.state), log.length) := by
  rw [handleLag_spec B log c (B + 2) (log.length - B) none (Nat.sub_le _ _) (by omega) (by omega)]
  have : finalMsg log (log.length - B) none = some m := (if_pos (Nat.sub_lt (Nat.zero_lt_of_lt hl) hB)).trans hm
  rw [this]

theorem handleLag_lagged0 {α} (log : List (Msg α)) (c : Bool) :
    handleLag 0 log c 2 log.length none = (if c then some none else none, log.length) := by
  rw [handleLag_spec 0 log c 2 log.length none (by omega) (by omega) (by omega)]
  simp [finalMsg]

/-- **What one `poll_next` does**, both flavours (`b`: batched): the leaves of `pollPlain` / `pollBatched`, each with the
    condition on the cursor under which it is taken. `b = false → r.rest = []`: the stream is between batches. In `batch` and
    `reset` the item is tied by an equation, not an index, or `cases` on a rule for a given item would get stuck unifying it
    with `if b then … else …` or a `flatMap`. -/
inductive PStep {α} (b : Bool) (B : Nat) (log : List (Msg α)) (c : Bool) (r : Sub α) : Item α → Sub α → Prop where
  | rest (d : Diff α) (ds : List (Diff α)) : b = false → r.rest = d :: ds → PStep b B log c r (.one d) { r with rest := ds }
  | pending : (b = false → r.rest = []) → log.length ≤ r.next → c = false →
      PStep b B log c r .pending { r with waiting := true }
  | done : (b = false → r.rest = []) → log.length ≤ r.next → c = true →
      PStep b B log c r .done { r with waiting := false }
  | one (m : Msg α) (d : Diff α) (ds : List (Diff α)) : b = false → r.rest = [] → ¬ r.next + B < log.length →
      log[r.next]? = some m → m.diffs = d :: ds →
      PStep b B log c r (.one d) { r with next := r.next + 1, rest := ds, waiting := false }
  | empty_msg (m : Msg α) : b = false → r.rest = [] → ¬ r.next + B < log.length → log[r.next]? = some m → m.diffs = [] →
      PStep b B log c r .panic { r with next := r.next + 1 }
  | batch (ds : List (Diff α)) : b = true → ¬ r.next + B < log.length → r.next < log.length →
      ds = (log.drop r.next).flatMap (·.diffs) → PStep b B log c r (.batch ds) { r with next := log.length, waiting := false }
  | reset (m : Msg α) (it : Item α) : (b = false → r.rest = []) → 0 < B → r.next + B < log.length → log.getLast? = some m →
      it = resetItem b m.state → PStep b B log c r it { r with next := log.length, waiting := false }
  /- a window of 0, which `OV.new` never makes: nothing is retained -/
  | lag0_done : (b = false → r.rest = []) → B = 0 → r.next < log.length → c = true →
      PStep b B log c r .done { r with next := log.length, waiting := false }
  | lag0_panic : (b = false → r.rest = []) → B = 0 → r.next < log.length → c = false →
      PStep b B log c r .panic { r with next := log.length }

theorem PStep.sound {α} {b : Bool} {B : Nat} {log : List (Msg α)} {c : Bool} {r : Sub α} {it : Item α} {r' : Sub α}
    (h : PStep b B log c r it r') : pollAs b B log c r = (it, r') := by
  cases h with
  | rest d ds hb hr => subst hb; simp [pollAs, pollPlain, hr]
  | pending hi hn hc =>
    subst hc
    cases b <;> simp [pollAs, pollPlain, pollBatched, hi, tryRecv_end B log false r.next hn]
  | done hi hn hc =>
    subst hc
    cases b <;> simp [pollAs, pollPlain, pollBatched, hi, tryRecv_end B log true r.next hn]
  | one m d ds hb hr hl hm hd => subst hb; simp [pollAs, pollPlain, hr, tryRecv_ok B log c r.next hl m hm, hd]
  | empty_msg m hb hr hl hm hd => subst hb; simp [pollAs, pollPlain, hr, tryRecv_ok B log c r.next hl m hm, hd]
  | batch ds hb hl hlt hds =>
    subst hb hds
    have hm : log[r.next]? = some log[r.next] := by simp [hlt]
    simp only [pollAs, if_true]
    unfold pollBatched
    rw [tryRecv_ok B log c r.next hl _ hm]
    simp only
    rw [batchLoop_spec B log c _ (r.next + 1) _ (by omega) (by omega) (by omega), flatMap_drop_of_getElem? _ hm]
  | reset m it hi hB hl hm hit =>
    subst hit
    have hd := handleLag_lagged B log c hB (by omega) m hm
    cases b <;> simp [pollAs, pollPlain, pollBatched, hi, tryRecv_lagged B log c r.next hl, hd, resetItem]
  | lag0_done hi hB hl hc =>
    subst hB hc
    cases b <;> simp [pollAs, pollPlain, pollBatched, hi, tryRecv_lagged 0 log _ r.next hl, handleLag_lagged0]
  | lag0_panic hi hB hl hc =>
    subst hB hc
    cases b <;> simp [pollAs, pollPlain, pollBatched, hi, tryRecv_lagged 0 log _ r.next hl, handleLag_lagged0]

theorem PStep.total {α} (b : Bool) (B : Nat) (log : List (Msg α)) (c : Bool) (r : Sub α) :
    PStep b B log c r (pollAs b B log c r).1 (pollAs b B log c r).2 := by
  have key : ∃ it r', PStep b B log c r it r' := by
    by_cases hi : b = false → r.rest = []
    · rcases cursor_cases B log r.next with ⟨m, hm, hl⟩ | hl | hn
      · cases b
        · cases hd : m.diffs with
          | nil => exact ⟨_, _, .empty_msg m rfl (hi rfl) hl hm hd⟩
          | cons d ds => exact ⟨_, _, .one m d ds rfl (hi rfl) hl hm hd⟩
        · exact ⟨_, _, .batch _ rfl hl (List.getElem?_eq_some_iff.mp hm).1 rfl⟩
      · by_cases hB : 0 < B
        · obtain ⟨m, hm⟩ := exists_getLast?_of_lt hl
          exact ⟨_, _, .reset m _ hi hB hl hm rfl⟩
        · cases c
          · exact ⟨_, _, .lag0_panic hi (by omega) (by omega) rfl⟩
          · exact ⟨_, _, .lag0_done hi (by omega) (by omega) rfl⟩
      · cases c
        · exact ⟨_, _, .pending hi hn rfl⟩
        · exact ⟨_, _, .done hi hn rfl⟩
    · obtain ⟨hb, hr⟩ := Classical.not_imp.mp hi
      obtain ⟨d, ds, hr⟩ := List.exists_cons_of_ne_nil hr
      exact ⟨_, _, .rest d ds hb hr⟩
  obtain ⟨it, r', h⟩ := key
  rw [h.sound]; exact h

theorem PStep.of_pending {α} {b : Bool} {B : Nat} {log : List (Msg α)} {c : Bool} {r r' : Sub α}
    (h : PStep b B log c r .pending r') :
    (b = false → r.rest = []) ∧ log.length ≤ r.next ∧ c = false ∧ r' = { r with waiting := true } := by
  cases h with
  | pending hi hn hc => exact ⟨hi, hn, hc, rfl⟩
  | reset m it _ _ _ _ hit => cases b <;> cases hit

theorem PStep.of_done {α} {b : Bool} {B : Nat} {log : List (Msg α)} {c : Bool} {r r' : Sub α}
    (h : PStep b B log c r .done r') :
    c = true ∧ ((b = false → r.rest = []) ∧ log.length ≤ r.next ∨ B = 0) := by
  cases h with
  | done hi hn hc => exact ⟨hc, .inl ⟨hi, hn⟩⟩
  | reset m it _ _ _ _ hit => cases b <;> cases hit
  | lag0_done _ h0 _ hc => exact ⟨hc, .inr h0⟩

theorem PStep.of_batch {α} {b : Bool} {B : Nat} {log : List (Msg α)} {c : Bool} {r r' : Sub α} {ds : List (Diff α)}
    (h : PStep b B log c r (.batch ds) r') : b = true ∧ r' = { r with next := log.length, waiting := false } := by
  cases h with
  | batch _ hb => exact ⟨hb, rfl⟩
  | reset m it _ _ _ _ hit => cases b <;> cases hit; exact ⟨rfl, rfl⟩

theorem PStep.frame {α} {b : Bool} {B : Nat} {log : List (Msg α)} {c : Bool} {r : Sub α} {it : Item α} {r' : Sub α}
    (h : PStep b B log c r it r') (hn : r.next ≤ log.length) :
    r'.alive = r.alive ∧ r'.batched = r.batched ∧ r'.replica = r.replica ∧ r.next ≤ r'.next ∧ r'.next ≤ log.length := by
  cases h with
  | rest | pending | done => exact ⟨rfl, rfl, rfl, Nat.le_refl _, hn⟩
  | one m d ds _ _ _ hm | empty_msg m _ _ _ hm =>
    exact ⟨rfl, rfl, rfl, Nat.le_succ _, (List.getElem?_eq_some_iff.mp hm).1⟩
  | batch | reset | lag0_done | lag0_panic => exact ⟨rfl, rfl, rfl, hn, Nat.le_refl _⟩

/-- the ghost update of a poll -/
def ghostRep {α} (it : Item α) (rep : Option (List α)) : Option (List α) :=
  match it with
  | .one d => rep.bind (applyAll [d])
  | .batch ds => rep.bind (applyAll ds)
  | _ => rep

theorem ghostRep_of_carries {α} {it : Item α} {ds : List (Diff α)} (h : it = .batch ds ∨ ∃ d, it = .one d ∧ ds = [d])
    (rep : Option (List α)) : ghostRep it rep = rep.bind (applyAll ds) := by
  rcases h with rfl | ⟨d, rfl, rfl⟩ <;> rfl

theorem ghostRep_resetItem {α} (b : Bool) (vs rep : List α) : ghostRep (resetItem b vs) (some rep) = some vs := by
  cases b <;> rfl

def OV.pollOf {α} (s : OV α) (r : Sub α) : Item α × Sub α := pollAs r.batched s.B s.log (!s.alive) r

theorem OV.poll_eq {α} (s : OV α) (i : Nat) (r : Sub α) (hs : s.subs[i]? = some r) (ha : r.alive = true) :
    s.poll i = some ((s.pollOf r).1,
      { s with subs := s.subs.set i { (s.pollOf r).2 with replica := ghostRep (s.pollOf r).1 (s.pollOf r).2.replica } }) := by
  simp only [OV.poll, hs, ha, Bool.not_true, Bool.false_eq_true, if_false]; rfl

theorem OV.poll_rule {α} {s s' : OV α} {i : Nat} {it : Item α} (h : s.poll i = some (it, s')) :
    ∃ r r0, s.subs[i]? = some r ∧ r.alive = true ∧ PStep r.batched s.B s.log (!s.alive) r it r0 ∧
      s' = { s with subs := s.subs.set i { r0 with replica := ghostRep it r0.replica } } := by
  cases hs : s.subs[i]? with
  | none => simp [OV.poll, hs] at h
  | some r =>
    cases ha : r.alive with
    | false => simp [OV.poll, hs, ha] at h
    | true =>
      rw [s.poll_eq i r hs ha] at h; cases h
      exact ⟨r, _, rfl, ha, PStep.total r.batched s.B s.log (!s.alive) r, rfl⟩

theorem OV.poll_frame {α} (s s' : OV α) (i : Nat) (it : Item α) (h : s.poll i = some (it, s')) :
    s'.log = s.log ∧ s'.vals = s.vals ∧ s'.B = s.B ∧ s'.alive = s.alive ∧ s'.txn = s.txn := by
  obtain ⟨r, r0, -, -, -, rfl⟩ := OV.poll_rule h
  exact ⟨rfl, rfl, rfl, rfl, rfl⟩

theorem pstep_plain {α} {B : Nat} {log : List (Msg α)} {c : Bool} {r : Sub α} {it : Item α} (h : (pollPlain B log c r).1 = it) :
    PStep false B log c r it (pollPlain B log c r).2 := h ▸ PStep.total false B log c r

theorem pstep_batched {α} {B : Nat} {log : List (Msg α)} {c : Bool} {r : Sub α} {it : Item α} (h : (pollBatched B log c r).1 = it) :
    PStep true B log c r it (pollBatched B log c r).2 := h ▸ PStep.total true B log c r

theorem OV.poll_pending_iff {α} (s s' : OV α) (i : Nat) :
    s.poll i = some (.pending, s') ↔
      ∃ r, s.subs[i]? = some r ∧ r.alive = true ∧ (r.batched = false → r.rest = []) ∧ s.log.length ≤ r.next ∧
        s.alive = true ∧ s' = { s with subs := s.subs.set i { r with waiting := true } } := by
  constructor
  · intro h
    obtain ⟨r, r0, hs, hal, hp, rfl⟩ := OV.poll_rule h
    obtain ⟨hi, hn, hc, rfl⟩ := hp.of_pending
    exact ⟨r, hs, hal, hi, hn, by simpa using hc, rfl⟩
  · rintro ⟨r, hs, hal, hi, hn, hc, rfl⟩
    have hp : s.pollOf r = (.pending, { r with waiting := true }) := (PStep.pending hi hn (by simp [hc])).sound
    rw [s.poll_eq i r hs hal, hp]
    rfl

/-- nothing the vector publishes is a `Reset` -/
def NoReset {α} (log : List (Msg α)) : Prop := ∀ m ∈ log, ∀ d ∈ m.diffs, ∀ vs, d ≠ .reset vs

/-- every rule but `reset` hands out diffs of the log or of the remainder -/
theorem PStep.of_reset {α} {b : Bool} {B : Nat} {log : List (Msg α)} {c : Bool} {r r' : Sub α} {it : Item α} {vs : List α}
    (h : PStep b B log c r it r') (hnr : NoReset log) (hrest : b = false → ∀ d ∈ r.rest, ∀ vs, d ≠ .reset vs)
    (hres : it = .one (.reset vs) ∨ ∃ ds, it = .batch ds ∧ Diff.reset vs ∈ ds) :
    r.next + B < log.length ∧ (b = false → r.rest = []) ∧ (∃ m, log.getLast? = some m ∧ m.state = vs) ∧
      it = resetItem b vs ∧ r' = { r with next := log.length, waiting := false } := by
  cases h with
  | rest d ds hb hr =>
    rcases hres with h | ⟨_, h, _⟩ <;> cases h
    exact absurd rfl (hrest hb _ (by simp [hr]) vs)
  | one m d ds _ _ _ hm hd =>
    rcases hres with h | ⟨_, h, _⟩ <;> cases h
    exact absurd rfl (hnr m (List.mem_of_getElem? hm) _ (by simp [hd]) vs)
  | batch ds _ _ _ hds =>
    rcases hres with h | ⟨_, h, hmem⟩ <;> cases h
    obtain ⟨m, hm, hd⟩ := List.mem_flatMap.mp (hds ▸ hmem)
    exact absurd rfl (hnr m (List.mem_of_mem_drop hm) _ hd vs)
  | reset m it hi _ hl hm hit =>
    have : m.state = vs := by
      subst hit
      cases b <;> rcases hres with h | ⟨_, h, hmem⟩ <;> cases h
      · rfl
      · exact (Diff.reset.inj (List.mem_singleton.mp hmem)).symm
    exact ⟨hl, hi, ⟨m, hm, this⟩, this ▸ hit, rfl⟩
  | pending | done | empty_msg | lag0_done | lag0_panic => rcases hres with h | ⟨_, h, _⟩ <;> cases h

/-- the vector never publishes an empty message (c07: a commit without recorded changes publishes nothing) -/
def NoEmptyMsg {α} (log : List (Msg α)) : Prop := ∀ m ∈ log, m.diffs ≠ []

theorem flat_ne_nil {α} {log : List (Msg α)} {n : Nat} (hne : NoEmptyMsg log) (hlt : n < log.length) :
    (log.drop n).flatMap (·.diffs) ≠ [] := by
  rw [flatMap_drop_of_getElem? _ (List.getElem?_eq_getElem hlt)]
  exact fun h => hne _ (List.getElem_mem hlt) (List.append_eq_nil_iff.mp h).1

theorem PStep.of_panic {α} {b : Bool} {B : Nat} {log : List (Msg α)} {c : Bool} {r r' : Sub α}
    (h : PStep b B log c r .panic r') (hB : 0 < B) (hne : NoEmptyMsg log) : False := by
  cases h with
  | empty_msg m _ _ _ hm hd => exact hne m (List.mem_of_getElem? hm) hd
  | reset m it _ _ _ _ hit => cases b <;> cases hit
  | lag0_panic _ h0 => omega

theorem OV.poll_no_empty_batch {α} (s s' : OV α) (i : Nat) (it : Item α) (hne : NoEmptyMsg s.log)
    (h : s.poll i = some (it, s')) : it ≠ .batch [] := by
  obtain ⟨r, r', _, _, hp, _⟩ := OV.poll_rule h
  rintro rfl
  cases hp with
  | batch _ _ _ hlt hds => exact flat_ne_nil hne hlt hds.symm
  | reset m it _ _ _ _ hit => cases hb : r.batched <;> simp [resetItem, hb] at hit

theorem plain_never_batch {α} (s s' : OV α) (i : Nat) (it : Item α) (r : Sub α) (hs : s.subs[i]? = some r) (hb : r.batched = false)
    (h : s.poll i = some (it, s')) : ∀ ds, it ≠ .batch ds := by
  obtain ⟨r0, r', hs0, _, hp, _⟩ := OV.poll_rule h
  cases hs.symm.trans hs0
  rintro ds rfl
  exact absurd (hb.symm.trans hp.of_batch.1) nofun

end EV
