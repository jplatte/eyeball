/-
  The events of an `ObservableVector` and its subscribers: a traversal is a sequence of single mutator calls, and every other
  event is a poll of one receiver or *grows* the world (`Grow`): the receivers stay where they are, at most one message is
  appended. Every reachable-state invariant is proved from these two facts.
-/
import EyeballVerif.Lemmas.ListExtra
import EyeballVerif.Lemmas.Traversal
import EyeballVerif.Lemmas.Txn
import EyeballVerif.Props.C07  -- `c05_exec_faithful`, `TxnInv`, `txnForEach_foldl`
namespace EV

/-- everything that can happen to an `ObservableVector` and its subscribers -/
inductive VEv (α : Type) where
  | direct (op : VOp α)
  | forEach (decs : List (Dec α))
  | subscribe (batched : Bool)
  | dropSub (i : Nat)
  | dropVec
  | txnBegin
  | txnOp (op : VOp α)
  | txnForEach (decs : List (Dec α))
  | txnRollback
  | txnDrop
  | txnCommit
  | poll (i : Nat)

/-- one event; events the borrow checker rules out (touching the vector while a transaction borrows it,
    using a dropped vector) and panicking calls leave the world unchanged -/
def OV.vstep {α} (s : OV α) : VEv α → OV α
  | .direct op => if s.alive && s.txn.isNone then (match s.direct op with | some (s', _, _) => s' | none => s) else s
  | .forEach decs => if s.alive && s.txn.isNone then (s.forEach decs).1.1 else s
  | .subscribe b => if s.alive && s.txn.isNone then (s.subscribe b).1 else s
  | .dropSub i => s.dropSub i
  | .dropVec => if s.alive && s.txn.isNone then s.dropVec.1 else s
  | .txnBegin => if s.alive && s.txn.isNone then s.txnBegin else s
  | .txnOp op => match s.txnOp op with | some (s', _) => s' | none => s
  | .txnForEach decs => if s.txn.isSome then (s.txnForEach decs).1 else s
  | .txnRollback => s.txnRollback
  | .txnDrop => s.txnDrop
  | .txnCommit => s.txnCommit.1
  | .poll i => match s.poll i with | some (_, s') => s' | none => s

theorem direct_cases {α} (s s' : OV α) (op : VOp α) (ret : Ret α) (w : List Nat) (h : s.direct op = some (s', ret, w)) :
    ∃ r, op.exec s.vals = some r ∧
      (r.diff = none ∧ s' = s ∨
       ∃ d, r.diff = some d ∧ s' = (({ s with vals := r.vals } : OV α).send { diffs := [d], many := false, state := r.vals }).1) := by
  unfold OV.direct at h
  cases he : op.exec s.vals with
  | none => simp [he] at h
  | some r =>
    refine ⟨r, rfl, ?_⟩
    simp only [he] at h
    cases hd : r.diff with
    | none =>
      simp [hd] at h
      have hv : r.vals = s.vals := (c05_exec_faithful op s.vals r he).2.1 hd
      exact Or.inl ⟨rfl, by rw [← h.1, hv]⟩
    | some d => simp [hd] at h; exact Or.inr ⟨d, rfl, h.1.symm⟩

theorem direct_frame {α} (s s' : OV α) (op : VOp α) (ret : Ret α) (w : List Nat) (h : s.direct op = some (s', ret, w)) :
    s'.alive = s.alive ∧ s'.txn = s.txn := by
  obtain ⟨r, _, ⟨_, rfl⟩ | ⟨d, _, rfl⟩⟩ := direct_cases s s' op ret w h
  · exact ⟨rfl, rfl⟩
  · exact ⟨send_alive _ _, send_txn _ _⟩

theorem vstep_forEach {α} (s : OV α) (decs : List (Dec α)) :
    ∃ ops : List (VOp α), s.vstep (.forEach decs) = ops.foldl (fun u o => u.vstep (.direct o)) s := by
  simp only [OV.vstep]
  split
  · rename_i hg
    -- carried through the loop: the guard of `vstep (.direct _)` holds, the state is a fold of such steps
    let P : OV α × List Nat → Prop := fun st =>
      (st.1.alive && st.1.txn.isNone) = true ∧ ∃ ops : List (VOp α), st.1 = ops.foldl (fun u o => u.vstep (.direct o)) s
    have call : ∀ (st : OV α × List Nat) (o : VOp α), P st → P (OV.forEachCall st o) := by
      rintro st o ⟨g, ops, hops⟩
      have hv : st.1.vstep (.direct o) = (OV.forEachCall st o).1 := by
        simp only [OV.vstep, OV.forEachCall, g, if_true]; cases st.1.direct o <;> rfl
      refine ⟨?_, ops ++ [o], by rw [List.foldl_append, ← hops, ← hv]; rfl⟩
      unfold OV.forEachCall
      cases hd : st.1.direct o with
      | none => exact g
      | some p => obtain ⟨s', r, w⟩ := p; have := direct_frame _ _ _ _ _ hd; simpa [this.1, this.2] using g
    rw [OV.forEach_eq]
    exact (forEachLoop_preserves (P := P) _ _ _ (fun st i v => call st (.set i v)) (fun st i => call st (.remove i))
      _ _ _ _ _ ⟨hg, [], rfl⟩).2
  · exact ⟨[], rfl⟩

theorem vstep_txnForEach {α} (s : OV α) (decs : List (Dec α)) :
    ∃ ops : List (VOp α), s.vstep (.txnForEach decs) = ops.foldl (fun u o => u.vstep (.txnOp o)) s := by
  simp only [OV.vstep]
  split
  · exact txnForEach_foldl s decs  -- `u.txnEv (.op o)` and `u.vstep (.txnOp o)` unfold to the same `match`
  · exact ⟨[], rfl⟩

/-- not a traversal -/
def VEv.single {α} : VEv α → Prop
  | .forEach _ => False
  | .txnForEach _ => False
  | _ => True

/-- What `h` may assume of the event `e'` it is handed: it is `e` itself in the state `s` itself (a caller's obligation for
    a poll need only speak of `s`), or one of the calls a traversal consists of, which are never polls. -/
theorem vstep_of_single {α} {P : OV α → Prop} (s : OV α) (e : VEv α)
    (h : ∀ u e', VEv.single e' → (e' = e ∧ u = s ∨ ∀ i, e' ≠ .poll i) → P u → P (u.vstep e')) (hs : P s) : P (s.vstep e) := by
  cases e with
  | forEach decs =>
    obtain ⟨ops, ho⟩ := vstep_forEach s decs
    rw [ho]; exact foldl_preserves P _ (fun u o => h u (.direct o) trivial (Or.inr (by intro i h; cases h))) ops s hs
  | txnForEach decs =>
    obtain ⟨ops, ho⟩ := vstep_txnForEach s decs
    rw [ho]; exact foldl_preserves P _ (fun u o => h u (.txnOp o) trivial (Or.inr (by intro i h; cases h))) ops s hs
  | _ => exact h s _ trivial (Or.inl ⟨rfl, rfl⟩) hs

/-- in state `s` a message with diffs `ds` and new contents `v'` is published: by one mutator call (vector.rs:279-290) or
    by committing the open transaction (transaction.rs:43-52) -/
inductive Publishes {α} (s : OV α) : List (Diff α) → List α → Prop where
  | call (op : VOp α) (r : OpRes α) (d : Diff α) : op.exec s.vals = some r → r.diff = some d → Publishes s [d] r.vals
  | commit (t : Txn α) : s.txn = some t → Publishes s t.batch t.working

/-- every receiver of `s'` is the one `s` has at that index, same cursor, remainder, replica and flavour (not back to life),
    or is new: at the end of the log, the contents as its replica -/
def KeepsReceivers {α} (s s' : OV α) : Prop :=
  ∀ (j : Nat) (r' : Sub α), s'.subs[j]? = some r' →
    (∃ r, s.subs[j]? = some r ∧ (r'.alive = true → r.alive = true) ∧ r'.batched = r.batched ∧ r'.next = r.next ∧
      r'.rest = r.rest ∧ r'.replica = r.replica) ∨
    (s.subs.length ≤ j ∧ r'.next = s'.log.length ∧ r'.rest = [] ∧ r'.replica = some s'.vals)

theorem keepsReceivers_of_eq {α} {s s' : OV α} (hs : s'.subs = s.subs) : KeepsReceivers s s' :=
  fun _ r' h => .inl ⟨r', hs ▸ h, id, rfl, rfl, rfl, rfl⟩

theorem keepsReceivers_of_unpark {α} {s s' : OV α} (hs : s'.subs = s.unparkAll.subs) : KeepsReceivers s s' := by
  intro j r' h
  rw [hs, OV.unparkAll, List.getElem?_map] at h
  cases hr : s.subs[j]? with
  | none => simp [hr] at h
  | some r => simp [hr] at h; subst h; exact .inl ⟨r, rfl, id, rfl, rfl, rfl, rfl⟩

/-- `s'` comes from `s` by one event other than a poll -/
structure Grow {α} (s s' : OV α) : Prop where
  window : s'.B = s.B
  slen : s.subs.length ≤ s'.subs.length
  receivers : KeepsReceivers s s'
  /-- the log stays, and so do the contents if anybody listens; or it grows by one non-empty message carrying the new
      contents, published while somebody listened -/
  log_grows : (s'.log = s.log ∧ (s'.rxCount ≠ 0 → s'.vals = s.vals)) ∨
    ∃ ds many, s'.log = s.log ++ [{ diffs := ds, many, state := s'.vals }] ∧ ds ≠ [] ∧ s.rxCount ≠ 0 ∧ Publishes s ds s'.vals
  /-- closed; or untouched (contents the same, nobody started to listen); or (re)started; or one mutator further -/
  txn_moves : s'.txn = none ∨ (s'.txn = s.txn ∧ s'.vals = s.vals ∧ (s'.rxCount ≠ 0 → s.rxCount ≠ 0)) ∨
    (s'.vals = s.vals ∧ s'.txn = some { working := s.vals, batch := [] }) ∨ ∃ o r, s.txnOp o = some (s', r)

theorem grow_refl {α} (s : OV α) : Grow s s :=
  ⟨rfl, Nat.le_refl _, keepsReceivers_of_eq rfl, Or.inl ⟨rfl, fun _ => rfl⟩,
    Or.inr (Or.inl ⟨rfl, rfl, id⟩)⟩

theorem grow_of_outside {α} (s s' : OV α) (h : s'.outside = s.outside)
    (ht : s'.txn = none ∨ s'.txn = some { working := s.vals, batch := [] } ∨ ∃ o r, s.txnOp o = some (s', r)) : Grow s s' := by
  simp only [OV.outside, Prod.mk.injEq] at h
  obtain ⟨hv, _, hB, hl, hs⟩ := h
  refine ⟨hB, by rw [hs]; exact Nat.le_refl _, keepsReceivers_of_eq hs, Or.inl ⟨hl, fun _ => hv⟩, ?_⟩
  rcases ht with ht | ht | ht
  · exact Or.inl ht
  · exact Or.inr (Or.inr (Or.inl ⟨hv, ht⟩))
  · exact Or.inr (Or.inr (Or.inr ht))

theorem grow_subscribe {α} (s : OV α) (b : Bool) (htx : s.txn = none) : Grow s (s.subscribe b).1 := by
  refine ⟨rfl, by simp [OV.subscribe], ?_, Or.inl ⟨rfl, fun _ => rfl⟩, Or.inl htx⟩
  intro j r' h
  rcases getElem?_snoc_cases (l := s.subs) h with h | ⟨rfl, rfl⟩
  · exact Or.inl ⟨r', h, id, rfl, rfl, rfl, rfl⟩
  · exact Or.inr ⟨Nat.le_refl _, rfl, rfl, rfl⟩

theorem rxCount_dropSub_le {α} (s : OV α) (i : Nat) : (s.dropSub i).rxCount ≤ s.rxCount := by
  simp only [OV.dropSub, OV.rxCount]
  by_cases h : i < s.subs.length
  · obtain ⟨l₁, a, l₂, e, -, e'⟩ := List.exists_of_modify (fun r : Sub α => { r with alive := false, waiting := false }) h
    rw [e', e]; simp only [List.filter_append, List.filter_cons, List.length_append, Bool.false_eq_true, if_false]
    split <;> simp
  · rw [List.modify_eq_self (by omega)]; exact Nat.le_refl _

theorem grow_dropSub {α} (s : OV α) (i : Nat) : Grow s (s.dropSub i) := by
  refine ⟨rfl, by simp [OV.dropSub], ?_, Or.inl ⟨rfl, fun _ => rfl⟩,
    Or.inr (Or.inl ⟨rfl, rfl, fun h h0 => h (Nat.le_zero.mp (h0 ▸ rxCount_dropSub_le s i))⟩)⟩
  intro j r' h
  simp only [OV.dropSub, List.getElem?_modify] at h
  cases hr : s.subs[j]? with
  | none => simp [hr] at h
  | some r =>
    rw [hr] at h
    simp only [Option.map_eq_map, Option.map_some, Option.some.injEq] at h
    subst h
    refine Or.inl ⟨r, rfl, ?_⟩
    split <;> simp

theorem grow_dropVec {α} (s : OV α) (htx : s.txn = none) : Grow s s.dropVec.1 := by
  exact ⟨rfl, by simp [OV.dropVec, OV.unparkAll], keepsReceivers_of_unpark rfl, Or.inl ⟨rfl, fun _ => rfl⟩, Or.inl htx⟩

/-- publishing: `s1` is `s` with the new contents and no transaction -/
theorem grow_send {α} (s s1 : OV α) (ds : List (Diff α)) (many : Bool) (hB : s1.B = s.B) (hl : s1.log = s.log)
    (hs : s1.subs = s.subs) (htx : s1.txn = none) (hne : ds ≠ []) (hsrc : Publishes s ds s1.vals) :
    Grow s (s1.send { diffs := ds, many, state := s1.vals }).1 := by
  have hrx : s1.rxCount = s.rxCount := by simp only [OV.rxCount, hs]
  unfold OV.send
  split
  · rename_i h1
    exact ⟨hB, by simp [OV.unparkAll, hs], keepsReceivers_of_unpark (by simp only [OV.unparkAll, hs]),
      Or.inr ⟨ds, many, by simp [OV.unparkAll, hl], hne, hrx ▸ h1, hsrc⟩, Or.inl htx⟩
  · rename_i h1
    exact ⟨hB, by rw [hs]; exact Nat.le_refl _, keepsReceivers_of_eq hs,
      Or.inl ⟨hl, fun h => absurd h h1⟩, Or.inl htx⟩

theorem grow_direct {α} (s s' : OV α) (op : VOp α) (ret : Ret α) (w : List Nat) (htx : s.txn = none)
    (h : s.direct op = some (s', ret, w)) : Grow s s' := by
  obtain ⟨r, he, ⟨_, hs⟩ | ⟨d, hd, rfl⟩⟩ := direct_cases s s' op ret w h
  · exact hs ▸ grow_refl s
  · exact grow_send s { s with vals := r.vals } [d] false rfl rfl rfl htx (by simp) (.call op r d he hd)

/-- `commit` with nothing recorded changes the contents only if nobody listens (`TxnInv`) -/
theorem grow_txnCommit {α} (s : OV α) (hi : TxnInv s) : Grow s s.txnCommit.1 := by
  unfold OV.txnCommit
  cases ht : s.txn with
  | none => exact grow_refl s
  | some t =>
    simp only
    split
    · rename_i hb
      refine ⟨rfl, Nat.le_refl _, keepsReceivers_of_eq rfl, Or.inl ⟨rfl, fun hrx => ?_⟩, Or.inl rfl⟩
      have := hi t ht hrx
      rw [List.isEmpty_iff.mp hb] at this
      exact (Option.some.inj this).symm
    · rename_i hb
      exact grow_send s { s with vals := t.working, txn := none } t.batch true rfl rfl rfl rfl
        (fun h => hb (List.isEmpty_iff.mpr h)) (.commit t ht)

theorem guard_txn {α} {s : OV α} (h : (s.alive && s.txn.isNone) = true) : s.txn = none := by
  simp only [Bool.and_eq_true, Option.isNone_iff_eq_none] at h; exact h.2

theorem vstep_cases {α} (s : OV α) (e : VEv α) (hi : TxnInv s) (ha : e.single) :
    Grow s (s.vstep e) ∨ ∃ i it, e = .poll i ∧ s.poll i = some (it, s.vstep e) := by
  have guard : ∀ (g : Bool) (s' : OV α), (g = true → Grow s s') → Grow s (if g = true then s' else s) := by
    intro g s' h; cases g
    · exact grow_refl s
    · exact h rfl
  cases e with
  | direct op =>
    refine Or.inl (guard _ _ fun hg => ?_)
    cases hd : s.direct op with
    | none => exact grow_refl s
    | some p => obtain ⟨s', r, w⟩ := p; exact grow_direct s s' op r w (guard_txn hg) hd
  | subscribe b => exact Or.inl (guard _ _ fun hg => grow_subscribe s b (guard_txn hg))
  | dropSub i => exact Or.inl (grow_dropSub s i)
  | dropVec => exact Or.inl (guard _ _ fun hg => grow_dropVec s (guard_txn hg))
  | txnBegin => exact Or.inl (guard _ _ fun _ => grow_of_outside s _ rfl (Or.inr (Or.inl rfl)))
  | txnOp op =>
    left
    simp only [OV.vstep]
    cases h : s.txnOp op with
    | none => exact grow_refl s
    | some p => obtain ⟨s', r⟩ := p; exact grow_of_outside s s' (txnOp_outside s s' op r h) (Or.inr (Or.inr ⟨op, r, h⟩))
  | txnRollback =>
    left
    simp only [OV.vstep, OV.txnRollback]
    cases s.txn with
    | none => exact grow_refl s
    | some t => exact grow_of_outside s _ rfl (Or.inr (Or.inl rfl))
  | txnDrop => exact Or.inl (grow_of_outside s _ rfl (Or.inl rfl))
  | txnCommit => exact Or.inl (grow_txnCommit s hi)
  | poll i =>
    simp only [OV.vstep]
    cases h : s.poll i with
    | none => exact Or.inl (grow_refl s)
    | some p => obtain ⟨it, s'⟩ := p; exact Or.inr ⟨i, it, rfl, h⟩
  | forEach decs => exact ha.elim
  | txnForEach decs => exact ha.elim

end EV
